/-
Executable model of the field wrappers' glue (fields/{fq,fr,fp}.rs, */arkworks.rs, */ops.rs, wrappers).
Core Lean only.  A field is given by its modulus `m`, its number of 64-bit limbs `nl` and bit size `bits`;
`N_8 = (bits+7)/8`.  The backend primitives (Montgomery add/mul/…, `from_le_bytes_mod_order` of arkworks on
exactly N_8 bytes, fiat `to_montgomery` of an unreduced value) are modelled by their contract: exact
arithmetic mod m on canonical values.
-/
import Decaf.Model.Field

namespace Model

/-- LSB-first square-and-multiply over a bit list (same loop as `pow_le_limbs`; repeated here because this file
does not import the square-root model) -/
def powLeLimbsAux' (m : Nat) : List Bool → Nat → Nat → Nat
  | [], acc, _ => acc
  | b :: bs, acc, ins => powLeLimbsAux' m bs (if b then fmul m acc ins else acc) (fmul m ins ins)

structure FP where
  m : Nat
  nl : Nat
  bits : Nat
  /-- `FIELD_SIZE_POWER_OF_TWO` as published -/
  fspt : Nat

namespace FP
variable (F : FP)

def n8 : Nat := (F.bits + 7) / 8

/-- `from_raw_bytes` on exactly N_8 bytes: reduce -/
def fromRawBytes (bs : List Nat) : Nat := leBytes bs % F.m

def padTo (n : Nat) (bs : List Nat) : List Nat := bs ++ List.replicate (n - bs.length) 0

/-- `bytes.chunks(N_8)` -/
def chunks (n : Nat) : Nat → List Nat → List (List Nat)
  | 0, _ => []
  | fuel + 1, bs => if bs.isEmpty then [] else bs.take n :: chunks n fuel (bs.drop n)

/-- `from_le_bytes_mod_order` (fields/fq.rs:81-94): chunks, pad, reduce each, fold from the top -/
def fromLeBytesModOrder (bs : List Nat) : Nat :=
  let cs := (chunks F.n8 bs.length bs).map (fun c => F.fromRawBytes (padTo F.n8 c))
  cs.reverse.foldl (fun acc x => fadd F.m (fmul F.m acc F.fspt) x) 0

def fromBeBytesModOrder (bs : List Nat) : Nat := F.fromLeBytesModOrder bs.reverse

def toBytesLe (x : Nat) : List Nat := toLeBytes x F.n8

/-- `from_bytes_checked`: reduce, re-serialise, compare -/
def fromBytesChecked (bs : List Nat) : Option Nat :=
  let red := F.fromRawBytes bs
  if F.toBytesLe red == bs then some red else none

def toLeLimbs (x : Nat) : List Nat := toLimbs 64 x F.nl

/-- `from_le_limbs` -/
def fromLeLimbs (ls : List Nat) : Nat := Lit.ofLimbs 64 ls % F.m

/-- lexicographic comparison of equal-length lists, as `[u64; N]::cmp` -/
def cmpLex : List Nat → List Nat → Ordering
  | [], [] => .eq
  | [], _ => .lt
  | _, [] => .gt
  | a :: as, b :: bs => if a < b then .lt else if a > b then .gt else cmpLex as bs

/-- `PrimeField::from_bigint` (*/arkworks.rs:36-43): `repr >= MODULUS` is arkworks' BigInt order -/
def fromBigint (ls : List Nat) (modulusLimbs : List Nat) : Option Nat :=
  if cmpLex ls.reverse modulusLimbs.reverse != .lt then none else some (F.fromLeLimbs ls)

/-- `Ord::cmp` (ops.rs): reversed limbs, lexicographic -/
def cmp (a b : Nat) : Ordering := cmpLex (F.toLeLimbs a).reverse (F.toLeLimbs b).reverse

/-- serialize_with_flags (*/arkworks.rs): flag bitmask `mask`, `flagBits` = F::BIT_SIZE -/
def serWithFlags (x : Nat) (flagBits mask : Nat) : Option (List Nat) :=
  if flagBits > 8 then none
  else
    let bytes := F.toBytesLe x
    let sz := (F.bits + flagBits + 7) / 8
    if bytes.length == sz then
      some (bytes.take (bytes.length - 1) ++ [Nat.lor (bytes.getD (bytes.length - 1) 0) mask])
    else some (bytes ++ [mask])

/-- flag kinds: 0 EmptyFlags, 1 TEFlags, 2 SWFlags, k = 3..8 a user-defined flags type holding k bits in the top k bits of the
flag byte (the generic `Flags` API accepts any `BIT_SIZE ≤ 8`); returns (flag value, cleared byte) -/
def flagsFromU8 (kind : Nat) (b : Nat) : Option (Nat × Nat) :=
  match kind with
  | 0 => some (0, b)                       -- EmptyFlags::from_u8 always Some, removes nothing
  | 1 => some (b / 128, b % 128)           -- TEFlags: bit 7 = x negative
  | 2 =>                                   -- SWFlags: bit 7 = y negative, bit 6 = infinity; both = invalid
    let neg := b / 128 % 2
    let inf := b / 64 % 2
    if neg == 1 && inf == 1 then none
    else some (if inf == 1 then 2 else if neg == 1 then 1 else 0, b % 64)
  | k => some (b / 2 ^ (8 - k), b % 2 ^ (8 - k))

def flagBitsOf (kind : Nat) : Nat := match kind with | 0 => 0 | 1 => 1 | 2 => 2 | k => k

inductive DeErr | io | unexpectedFlags | invalidData
  deriving Repr, BEq, DecidableEq

/-- deserialize_with_flags: reads `(bits + flagBits + 7)/8` bytes into a buffer of `(bits+7)/8` bytes -/
def deserWithFlagsWide (kind : Nat) (input : List Nat) (modulusLimbs : List Nat) : Except DeErr (Nat × Nat) :=
  -- the general shape (as repaired: the buffer has one spare byte, the flags sit in the last byte *read*):
  -- `bytes = [0; n8 + 1]; read_exact(&mut bytes[..expected]); flags from bytes[expected - 1]; limbs from bytes[..8 * nl]`
  let buflen := (F.bits + 7) / 8
  let expected := (F.bits + flagBitsOf kind + 7) / 8
  if input.length < expected then .error .io
  else
    let bytes := input.take expected
    match flagsFromU8 kind (bytes.getD (expected - 1) 0) with
    | none => .error .unexpectedFlags
    | some (flag, last) =>
      let bytes := bytes.take (expected - 1) ++ [last] ++ List.replicate (buflen + 1 - expected) 0
      let limbs := toLimbs 64 (leBytes (bytes.take (8 * F.nl))) F.nl
      match F.fromBigint limbs modulusLimbs with
      | none => .error .invalidData
      | some v => .ok (v, flag)

def deserWithFlags (kind : Nat) (input : List Nat) (modulusLimbs : List Nat) : Except DeErr (Nat × Nat) :=
  if kind > 2 then deserWithFlagsWide F kind input modulusLimbs else
  -- the three standard flag types fit into the spare bits of the top byte: `expected = n8` (same function as above:
  -- `C11.deserWithFlags_eq_wide`)
  let buflen := (F.bits + 7) / 8
  let expected := (F.bits + flagBitsOf kind + 7) / 8
  if expected > buflen then .error .io
  else if input.length < expected then .error .io
  else
    let bytes := input.take expected ++ List.replicate (buflen - expected) 0
    match flagsFromU8 kind (bytes.getD (buflen - 1) 0) with
    | none => .error .unexpectedFlags
    | some (flag, last) =>
      let bytes := bytes.take (buflen - 1) ++ [last]
      let limbs := toLimbs 64 (leBytes (bytes.take (8 * F.nl))) F.nl
      match F.fromBigint limbs modulusLimbs with
      | none => .error .invalidData
      | some v => .ok (v, flag)

/-- `power` as repaired / as the property demands: x^(Σ limbs) -/
def powLimbs (x : Nat) (limbs : List Nat) : Nat := powMod x (Lit.ofLimbs 64 limbs) F.m

/-- `FromStr`: decimal digits, reduced as it goes; `none` on a non-digit -/
def fromStr (s : List Char) : Option Nat :=
  s.foldl (fun acc c => match acc with
    | none => none
    | some a => if c.isDigit then some (fadd F.m (fmul F.m 10 a) (c.toNat - 48)) else none) (some 0)

/-- `Display`: decimal without leading zeros; zero prints as the empty string -/
def display (x : Nat) : String := if x == 0 then "" else toString x

/-- `inverse`: absent for zero -/
def inverse (x : Nat) : Option Nat := if x == 0 then none else some (finv F.m x)

/-- `Fq::power` (fields/fq.rs, after the repair): LSB-first square-and-multiply over every limb -/
def power (x : Nat) (limbs : List Nat) : Nat := powLeLimbsAux' F.m (limbsBits limbs) (1 % F.m) x

/-- Montgomery form (radix 2^(64·nl)) of a canonical value, and back -/
def toMont (x : Nat) : Nat := (x * 2 ^ (64 * F.nl)) % F.m
def fromMont (v : Nat) : Nat := fmul F.m (v % F.m) (finv F.m (2 ^ (64 * F.nl) % F.m))

/-- `ConditionallySelectable` (fq/u64/wrapper.rs, fq/u32/wrapper.rs): limb-wise select on the Montgomery limbs
(of width `w` = 64 resp. 32 bits), then reinterpretation of the limbs as a Montgomery-form element -/
def selectLimbs (w : Nat) (a b : Nat) (c : Bool) : Nat :=
  let n := 64 * F.nl / w
  let al := toLimbs w (F.toMont a) n
  let bl := toLimbs w (F.toMont b) n
  F.fromMont (Lit.ofLimbs w (List.zipWith (fun x y => if c then y else x) al bl))

/-- `ConstantTimeEq`: equality of the Montgomery limbs -/
def ctEq (w : Nat) (a b : Nat) : Bool :=
  let n := 64 * F.nl / w
  toLimbs w (F.toMont a) n == toLimbs w (F.toMont b) n

def sum (xs : List Nat) : Nat := xs.foldl (fadd F.m) 0
def product (xs : List Nat) : Nat := xs.foldl (fmul F.m) (1 % F.m)

end FP

end Model
