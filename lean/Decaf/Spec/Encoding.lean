/-
Encoding and decoding of decaf377 over an arbitrary field, for an arbitrary sign and an arbitrary allowed answer of the
square-root-of-ratio routine.

* The optimised formulas of `encoding.rs` / `min_curve/element.rs` ask the routine one question, `sr 1 den`, and compute
  from its answer `(f, v)`; they appear here as functions of the answer.  `decDenF`, `encDenF` are the arguments handed to
  the routine; what the decoder computes from `v` is the pair in the statement of `decodes_of_root`, what the encoder
  computes is `encodeFA`.  The theorems about them (`decodes_of_root` with `DecodesTo.den_isSquare`, `encodeFA_spec`)
  assume of the answer at most `IsqrtAns` (Spec/Sign.lean), so they hold alike for what a routine meeting the contract
  returns and for a witness that satisfies the R1CS constraints.
* `DecodesTo`, `EncodesTo`: the specification of ristretto.sage (`Decaf_1_1_Point.decodeSpec / encodeSpec`,
  a = -1, cofactor 4, isoMagic = 1), stated relationally so that it does not depend on which square root a
  `sqrt` function happens to return:
    - decodeSpec: s non-negative; t a root of a²s⁴ + 2(a-2d)s² + 1 = (1-s²)² - 4ds² with 2s/t non-negative
      (sage: the non-negative root, negated when `altx = 2s/t` is negative); x = 2s/(1+as²), y = (1-as²)/t.
      At s = 0 sage returns (0,1); the relation also admits (0,-1), the other member of the same coset.
    - encodeSpec: 0 if x = 0 or y = 0; else ρ the root of 1 - ax² with xy/ρ non-negative
      (sage: `sr` non-negative, `s = (1+sr)/x` if `altx = xy/sr` is negative, else `(1-sr)/x`), s = |(1-ρ)/x|.
-/
import Decaf.Spec.Sign
import Decaf.Spec.Decaf
import Decaf.Spec.Extended

namespace Decaf
open Edwards

variable {K : Type*} [Field K] (P : Params K) (S : Sign K) {ζ : K}

def u2 (s : K) : K := (1 - s ^ 2) ^ 2 - 4 * P.d * s ^ 2

def decDenF (s : K) : K := u2 P s * (1 - s ^ 2) ^ 2

def encDenF (X T : K) : K := (X + T) * (X - T) * (-1 - P.d) * X ^ 2

def encodeFA (v X Z T : K) : K := S.abs ((-1 - P.d) * v * (S.abs (v * ((X + T) * (X - T))) * Z - T) * X)

/-- specification of decoding (see the header) -/
def DecodesTo (s x y : K) : Prop :=
  S.neg s = false ∧ ∃ t, t ^ 2 = u2 P s ∧ S.neg (2 * s / t) = false ∧ x = 2 * s / (1 - s ^ 2) ∧ y = (1 + s ^ 2) / t

/-- specification of encoding (see the header) -/
def EncodesTo (x y s : K) : Prop :=
  ((x = 0 ∨ y = 0) ∧ s = 0) ∨
  (x ≠ 0 ∧ y ≠ 0 ∧ ∃ ρ, ρ ^ 2 = 1 + x ^ 2 ∧ S.neg (x * y / ρ) = false ∧ s = S.abs ((1 - ρ) / x))

variable {P S}

/-! ### the Jacobi quartic `t² = u₂(s)` and its map `(s, t) ↦ (2s/(1-s²), (1+s²)/t)` onto the even points of E -/

theorem u2_ne_zero (s : K) : u2 P s ≠ 0 := by
  intro h
  unfold u2 at h
  by_cases hs : s = 0
  · subst hs; simp at h
  · -- (1-s²)² = d·(2s)²
    exact mul_sq_ne_sq P.hd (mul_ne_zero P.h2 hs) (1 - s ^ 2) (by linear_combination -h)

theorem ne_zero_of_root {s t : K} (ht : t ^ 2 = u2 P s) : t ≠ 0 := by
  rintro rfl; exact u2_ne_zero s (by rw [← ht]; ring)

theorem one_sub_sq_ne_zero_of_root {s t : K} (ht : t ^ 2 = u2 P s) : 1 - s ^ 2 ≠ 0 := by
  intro h
  unfold u2 at ht
  have hs2 : s ^ 2 = 1 := by linear_combination -h
  rw [h, hs2] at ht
  -- t² = -4d  ⇒  d·2² = (c t)²
  exact mul_sq_ne_sq P.hd P.h2 (P.c * t) (by linear_combination ht - t ^ 2 * P.hc)

theorem onCurve_of_root {s t : K} (ht : t ^ 2 = u2 P s) : OnCurve P.d (2 * s / (1 - s ^ 2)) ((1 + s ^ 2) / t) := by
  have hu1 := one_sub_sq_ne_zero_of_root ht
  have ht0 := ne_zero_of_root ht
  unfold u2 at ht
  unfold OnCurve
  field_simp
  linear_combination (-(4 * s ^ 2) - (1 - s ^ 2) ^ 2) * ht

theorem isEven_of_root {s t : K} (ht : t ^ 2 = u2 P s) : IsSquare (1 - P.d * (2 * s / (1 - s ^ 2)) ^ 2) := by
  have hu1 := one_sub_sq_ne_zero_of_root ht
  unfold u2 at ht
  refine ⟨t / (1 - s ^ 2), ?_⟩
  field_simp
  linear_combination -ht

theorem DecodesTo.onCurve {s x y : K} (h : DecodesTo P S s x y) : OnCurve P.d x y := by
  obtain ⟨_, t, ht, _, rfl, rfl⟩ := h; exact onCurve_of_root ht

theorem DecodesTo.isEven {s x y : K} (h : DecodesTo P S s x y) : IsSquare (1 - P.d * x ^ 2) := by
  obtain ⟨_, t, ht, _, rfl, _⟩ := h; exact isEven_of_root ht

/-- the algebra of decoding for ANY inverse square root `v` of `u₂u₁²` (used for the native decoder, where `v` comes
from the square-root routine, and for the R1CS gadget, where `v` is a prover-supplied witness): `t = 1/(v'u₁)` -/
theorem decodes_of_root {s v : K} (hn : S.neg s = false)
    (hv : v ^ 2 * (((1 - s ^ 2) ^ 2 - 4 * P.d * s ^ 2) * (1 - s ^ 2) ^ 2) = 1) :
    let v' := if S.neg (2 * s * (1 - s ^ 2) * v) = true then -v else v
    DecodesTo P S s (2 * s * (1 - s ^ 2) * v' ^ 2 * ((1 - s ^ 2) ^ 2 - 4 * P.d * s ^ 2)) ((1 + s ^ 2) * v' * (1 - s ^ 2)) := by
  intro v'
  have hnn : S.neg (2 * s * (1 - s ^ 2) * v') = false := by rw [S.mul_ite_neg]; exact S.abs_nonneg _
  have hv2 : v' ^ 2 = v ^ 2 := by rw [ite_pow, neg_sq, ite_self]
  rw [← hv2] at hv
  have hu1 : 1 - s ^ 2 ≠ 0 := by intro h0; rw [h0] at hv; simp at hv
  clear_value v'
  refine ⟨hn, ((1 - s ^ 2) * v')⁻¹, ?_, ?_, ?_, ?_⟩
  · rw [inv_pow]; exact inv_eq_of_mul_eq_one_left (by unfold u2; linear_combination hv)
  · rwa [div_inv_eq_mul, ← mul_assoc]
  · rw [eq_div_iff hu1]; linear_combination (2 * s) * hv
  · rw [div_inv_eq_mul]; ring

/-- the converse: where the specification decodes, the decoder's argument is a non-zero square, so every allowed answer
to it has its flag set -/
theorem DecodesTo.den_isSquare {s x y : K} (h : DecodesTo P S s x y) : decDenF P s ≠ 0 ∧ IsSquare (decDenF P s) := by
  obtain ⟨_, t, ht, _⟩ := h
  exact ⟨mul_ne_zero (u2_ne_zero s) (pow_ne_zero 2 (one_sub_sq_ne_zero_of_root ht)),
    t * (1 - s ^ 2), by rw [decDenF, ← ht]; ring⟩

theorem DecodesTo.unique {s x y x' y' : K} (h : DecodesTo P S s x y) (h' : DecodesTo P S s x' y') :
    x' = x ∧ (y' = y ∨ (s = 0 ∧ y' = -y)) := by
  obtain ⟨_, t, ht, hn, rfl, rfl⟩ := h
  obtain ⟨_, t', ht', hn', rfl, rfl⟩ := h'
  refine ⟨rfl, ?_⟩
  rcases sq_eq_sq_iff_eq_or_eq_neg.mp (ht'.trans ht.symm) with rfl | rfl
  · exact .inl rfl
  · by_cases hs : s = 0
    · exact .inr ⟨hs, div_neg _⟩
    · -- 2s/t and 2s/(-t) cannot both be non-negative
      have hz : 2 * s / t ≠ 0 := div_ne_zero (mul_ne_zero P.h2 hs) (ne_zero_of_root ht)
      rw [div_neg, S.neg_neg _ hz, hn] at hn'
      exact absurd hn' (by simp)

theorem one_add_d_ne_zero : (1 : K) + P.d ≠ 0 := fun h0 =>
  P.hd ⟨P.c, by linear_combination h0 - P.hc⟩

/-- the algebra of encoding for ANY inverse square root `v` of the encoder's argument: with `k = v·(X+T)(X-T)` one has
`k²(1 - d·x²) = x²` (so the point is even), and the specification holds with `ρ = xy/|k|` -/
theorem encodes_of_root {X Y Z T x y v : K} (r : Repr X Y Z T x y) (hc : OnCurve P.d x y) (hx : x ≠ 0) (hy : y ≠ 0)
    (hv : v ^ 2 * encDenF P X T = 1) : EncodesTo S x y (encodeFA P S v X Z T) := by
  unfold OnCurve at hc
  unfold encDenF at hv
  unfold encodeFA
  generalize hk : v * ((X + T) * (X - T)) = k
  rw [r.hx, r.t_eq] at hv hk ⊢
  -- k = 1/m for m = -(1+d)·v·x²Z²: m·k = v²·encDenF
  have hm : (-1 - P.d) * v * x ^ 2 * Z ^ 2 * k = 1 := by rw [← hk]; linear_combination hv
  have hk2 : k ^ 2 * (1 - P.d * x ^ 2) = x ^ 2 := by
    linear_combination (-(k * (1 - P.d * x ^ 2))) * hk - (k * v * x ^ 2 * Z ^ 2) * hc + x ^ 2 * hm
  have hk0 : S.abs k ≠ 0 := mt S.abs_eq_zero_iff.mp (right_ne_zero_of_mul (ne_of_eq_of_ne hm one_ne_zero))
  refine Or.inr ⟨hx, hy, x * y / S.abs k, ?_, ?_, ?_⟩
  · rw [div_pow, div_eq_iff (pow_ne_zero 2 hk0), S.abs_sq]
    linear_combination (-(y ^ 2)) * hk2 + (k ^ 2) * hc
  · rw [div_div_cancel₀ (mul_ne_zero hx hy)]; exact S.abs_nonneg k
  · apply S.abs_eq_abs_of_sq_eq
    -- both squares are (|k| - xy)² times a factor, and the factors agree: (m·|k|)² = (m·k)² = 1
    have hm2 : ((-1 - P.d) * v * x ^ 2 * Z ^ 2 * S.abs k) ^ 2 = 1 := by rw [mul_pow, S.abs_sq, ← mul_pow, hm, one_pow]
    field_simp
    linear_combination (S.abs k - x * y) ^ 2 * hm2

/-- on an even point off the line x = 0 the encoder's argument is the non-zero square ((1+d)x³Z²/w)², w² = 1 - d·x² -/
theorem encDenF_isSquare {X Y Z T x y : K} (r : Repr X Y Z T x y) (hc : OnCurve P.d x y)
    (he : IsSquare (1 - P.d * x ^ 2)) (hx : x ≠ 0) : encDenF P X T ≠ 0 ∧ IsSquare (encDenF P X T) := by
  obtain ⟨w, hw⟩ := he
  have hw0 : w ≠ 0 := by rintro rfl; exact one_sub_ne_zero P x (by rw [hw, mul_zero])
  have hm : (1 + P.d) * x ^ 3 * Z ^ 2 ≠ 0 :=
    mul_ne_zero (mul_ne_zero one_add_d_ne_zero (pow_ne_zero 3 hx)) (pow_ne_zero 2 r.z)
  have e : encDenF P X T * (w * w) = (1 + P.d) * x ^ 3 * Z ^ 2 * ((1 + P.d) * x ^ 3 * Z ^ 2) := by
    unfold OnCurve at hc
    rw [encDenF, r.hx, r.t_eq]
    linear_combination ((1 + P.d) * x ^ 4 * Z ^ 4 * (1 - y ^ 2)) * hw + ((1 + P.d) * x ^ 4 * Z ^ 4) * hc
  exact ⟨left_ne_zero_of_mul (e ▸ mul_ne_zero hm hm), _ / w, by rw [div_mul_div_comm, eq_div_iff (mul_ne_zero hw0 hw0), e]⟩

/-- the optimised encoder computes the specified encoding, for every representative of every even point and every
allowed answer of the routine.  Nothing is asked of the answer where the argument is 0: that happens at x = 0 only, where
the encoding is 0 whatever `v` is (so the R1CS gadget, whose constraints leave the answer at 0 open, is still sound) -/
theorem encodeFA_spec (hd1 : ¬ IsSquare (1 + P.d)) {X Y Z T x y : K} (r : Repr X Y Z T x y)
    (hc : OnCurve P.d x y) (he : IsSquare (1 - P.d * x ^ 2)) {f : Bool} {v : K}
    (hA : encDenF P X T ≠ 0 → IsqrtAns ζ (encDenF P X T) f v) : EncodesTo S x y (encodeFA P S v X Z T) := by
  by_cases hx : x = 0
  · have hX : X = 0 := by rw [r.hx, hx, zero_mul]
    exact .inl ⟨.inl hx, by simp [encodeFA, hX]⟩
  · have hden := encDenF_isSquare r hc he hx
    exact encodes_of_root r hc hx (y_ne_zero_of_even hd1 hc he) ((hA hden.1).square hden.1 hden.2).2

theorem EncodesTo.unique {x y s s' : K} (h : EncodesTo S x y s) (h' : EncodesTo S x y s') : s' = s := by
  rcases h with ⟨h0, rfl⟩ | ⟨hx, hy, ρ, hρ, hn, rfl⟩ <;> rcases h' with ⟨h0', rfl⟩ | ⟨hx', hy', ρ', hρ', hn', rfl⟩
  · rfl
  · rcases h0 with h | h <;> contradiction
  · rcases h0' with h | h <;> contradiction
  · -- xy/ρ' and xy/ρ have the same square and are both non-negative
    have e := S.eq_of_sq_eq_of_neg_eq (by rw [div_pow, div_pow, hρ', hρ]) (hn'.trans hn.symm)
    rw [div_eq_mul_inv, div_eq_mul_inv] at e
    rw [inv_inj.mp (mul_left_cancel₀ (mul_ne_zero hx hy) e)]

theorem EncodesTo.neg {x y s : K} (h : EncodesTo S x y s) : EncodesTo S (-x) (-y) s := by
  rcases h with ⟨h0, rfl⟩ | ⟨hx, hy, ρ, hρ, hn, rfl⟩
  · exact .inl ⟨h0.imp neg_eq_zero.mpr neg_eq_zero.mpr, rfl⟩
  · exact .inr ⟨neg_ne_zero.mpr hx, neg_ne_zero.mpr hy, ρ, by rwa [neg_sq], by rwa [neg_mul_neg],
      by rw [div_neg, S.abs_neg]⟩

/-- encode ∘ decode = id -/
theorem DecodesTo.encodesTo (hd1 : ¬ IsSquare (1 + P.d)) {s x y : K} (h : DecodesTo P S s x y) : EncodesTo S x y s := by
  have hy0 := y_ne_zero_of_even hd1 h.onCurve h.isEven
  obtain ⟨hns, t, ht, hn, hx, hy⟩ := h
  have hu1 := one_sub_sq_ne_zero_of_root ht
  have ht0 := ne_zero_of_root ht
  by_cases hs : s = 0
  · exact .inl ⟨.inl (by rw [hx, hs, mul_zero, zero_div]), hs⟩
  · right
    have h1s : 1 + s ^ 2 ≠ 0 := fun h0 => hy0 (by rw [hy, h0, zero_div])
    have hx0 : x ≠ 0 := by rw [hx]; exact div_ne_zero (mul_ne_zero P.h2 hs) hu1
    refine ⟨hx0, hy0, (1 + s ^ 2) / (1 - s ^ 2), ?_, ?_, ?_⟩
    · rw [hx]; field_simp; ring
    · have : x * y / ((1 + s ^ 2) / (1 - s ^ 2)) = 2 * s / t := by rw [hx, hy]; field_simp
      rw [this]; exact hn
    · have : (1 - (1 + s ^ 2) / (1 - s ^ 2)) / x = -s := by
        have h2 := P.h2
        rw [hx]; field_simp; ring
      rw [this, S.abs_neg, S.abs_of_nonneg hns]

/-- the inverse of `(s, t) ↦ (2s/(1-s²), (1+s²)/t)`: a point of E off the axes, together with a root ρ of 1 + x², comes
from the point `((ρ-1)/x, 2ρ/((ρ+1)y))` of the quartic, and `2s/t = xy/ρ` there -/
theorem root_of_point {x y ρ : K} (hc : OnCurve P.d x y) (hx : x ≠ 0) (hy : y ≠ 0) (hρ : ρ ^ 2 = 1 + x ^ 2) :
    ∃ s t : K, s = (ρ - 1) / x ∧ t ^ 2 = u2 P s ∧ 2 * s / t = x * y / ρ ∧ x = 2 * s / (1 - s ^ 2) ∧ y = (1 + s ^ 2) / t := by
  have h2 := P.h2
  have hρ1 : ρ + 1 ≠ 0 := fun h0 => pow_ne_zero 2 hx (by linear_combination -hρ + (ρ - 1) * h0)
  have hρ0 : ρ ≠ 0 := by
    rintro rfl
    unfold OnCurve at hc
    exact mul_ne_zero (pow_ne_zero 2 hy) (one_sub_ne_zero P x) (by linear_combination hc - hρ)
  unfold OnCurve at hc
  have hs2 : ((ρ - 1) / x) ^ 2 = (ρ - 1) / (ρ + 1) := by
    field_simp; linear_combination (ρ - 1) * hρ
  have e1 : 1 - (ρ - 1) / (ρ + 1) = 2 / (ρ + 1) := by field_simp; ring
  have e2 : 1 + (ρ - 1) / (ρ + 1) = 2 * ρ / (ρ + 1) := by field_simp; ring
  refine ⟨(ρ - 1) / x, 2 * ρ / ((ρ + 1) * y), rfl, ?_, ?_, ?_, ?_⟩
  · rw [u2, hs2, e1]; field_simp; linear_combination (4 + 4 * P.d * y ^ 2) * hρ - 4 * hc
  · field_simp; linear_combination hρ
  · rw [hs2, e1]; field_simp; linear_combination -hρ
  · rw [hs2, e2]; field_simp

/-- decode ∘ encode ~ id on the even subgroup: the specified encoding of an even point decodes (by the
specification) to that point or to the other member of its coset -/
theorem EncodesTo.decodesTo (hd1 : ¬ IsSquare (1 + P.d)) {x y s : K} (h : EncodesTo S x y s)
    (hc : OnCurve P.d x y) (he : IsSquare (1 - P.d * x ^ 2)) :
    ∃ x' y', DecodesTo P S s x' y' ∧ ((x' = x ∧ y' = y) ∨ (x' = -x ∧ y' = -y)) := by
  rcases h with ⟨h0, rfl⟩ | ⟨hx, hy, ρ, hρ, hn, rfl⟩
  · -- x = 0: the point is (0, ±1) and s = 0
    have hy0 := y_ne_zero_of_even hd1 hc he
    obtain rfl : x = 0 := h0.resolve_right hy0
    have hy2 : y ^ 2 = 1 := by unfold OnCurve at hc; linear_combination hc
    refine ⟨0, y, ⟨S.neg_zero, y, ?_, ?_, ?_, ?_⟩, .inl ⟨rfl, rfl⟩⟩
    · rw [u2]; linear_combination hy2
    · rw [mul_zero, zero_div]; exact S.neg_zero
    · rw [mul_zero, zero_div]
    · rw [eq_div_iff hy0]; linear_combination hy2
  · -- x ≠ 0: the point comes from (s', t') on the quartic with 2s'/t' = xy/ρ, and s = |s'| is s' or -s'
    obtain ⟨s, t, hs, ht, hst, hxs, hyt⟩ := root_of_point hc hx hy hρ
    have hnn := S.abs_nonneg s
    rw [← hst] at hn
    rw [show (1 - ρ) / x = -s by rw [hs, ← neg_div, neg_sub], S.abs_neg]
    rcases S.abs_eq_self_or_neg s with h | h <;> rw [h] at hnn ⊢
    · exact ⟨x, y, ⟨hnn, t, ht, hn, hxs, hyt⟩, .inl ⟨rfl, rfl⟩⟩
    · refine ⟨-x, -y, ⟨hnn, -t, ?_, ?_, ?_, ?_⟩, .inr ⟨rfl, rfl⟩⟩
      · rw [neg_sq, ht, u2, u2, neg_sq]
      · rwa [mul_neg, neg_div_neg_eq]
      · rw [neg_sq, mul_neg, neg_div, ← hxs]
      · rw [neg_sq, div_neg, ← hyt]

end Decaf
