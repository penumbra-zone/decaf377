/-
An abstract sign on a field (src/sign.rs: "negative" = odd canonical representative), the four-case contract of
the square-root-of-ratio routine, and what that contract allows as the answer to the one question encoding, decoding and
Elligator ask of the routine (`IsqrtAns`).  Everything about the three is proved for EVERY sign with these two properties
and EVERY allowed answer — hence for both backends, either root, and a prover-supplied witness that satisfies the R1CS
constraints of the inverse square root.
-/
import Mathlib.Algebra.Field.Basic
import Mathlib.Algebra.Group.Even
import Mathlib.Tactic.FieldSimp
import Mathlib.Tactic.LinearCombination
import Mathlib.Tactic.Ring

namespace Decaf

variable {K : Type*} [Field K]

structure Sign (K : Type*) [Field K] where
  neg : K → Bool
  neg_zero : neg 0 = false
  neg_neg : ∀ z : K, z ≠ 0 → neg (-z) = !neg z

namespace Sign
variable (S : Sign K)

def abs (z : K) : K := if S.neg z then -z else z

theorem abs_of_nonneg {z : K} (h : S.neg z = false) : S.abs z = z := by simp [abs, h]
theorem abs_of_neg {z : K} (h : S.neg z = true) : S.abs z = -z := by simp [abs, h]

@[simp] theorem abs_zero : S.abs 0 = 0 := by simp [abs, S.neg_zero]

theorem nonneg_or_neg_nonneg {z : K} (hz : z ≠ 0) : (S.neg z = false ∧ S.neg (-z) = true) ∨ (S.neg z = true ∧ S.neg (-z) = false) := by
  rw [S.neg_neg z hz]
  cases S.neg z <;> simp

theorem abs_eq_self_or_neg (z : K) : S.abs z = z ∨ S.abs z = -z := by
  unfold abs; split <;> simp

theorem abs_nonneg (z : K) : S.neg (S.abs z) = false := by
  by_cases hz : z = 0
  · rw [hz, abs_zero, S.neg_zero]
  · rcases S.nonneg_or_neg_nonneg hz with ⟨h, _⟩ | ⟨h, h'⟩
    · rwa [S.abs_of_nonneg h]
    · rwa [S.abs_of_neg h]

theorem abs_neg (z : K) : S.abs (-z) = S.abs z := by
  by_cases hz : z = 0
  · rw [hz, _root_.neg_zero]
  · rcases S.nonneg_or_neg_nonneg hz with ⟨h, h'⟩ | ⟨h, h'⟩
    · rw [S.abs_of_nonneg h, S.abs_of_neg h', _root_.neg_neg]
    · rw [S.abs_of_neg h, S.abs_of_nonneg h']

theorem abs_sq (z : K) : S.abs z ^ 2 = z ^ 2 := by
  rcases S.abs_eq_self_or_neg z with h | h
  · rw [h]
  · rw [h, neg_sq]

theorem abs_eq_zero_iff {z : K} : S.abs z = 0 ↔ z = 0 := by
  rcases S.abs_eq_self_or_neg z with h | h
  · rw [h]
  · rw [h, neg_eq_zero]

/-- the sign choice of the decoder: `a·(±v)`, the sign chosen by the test on `a·v`, is `|a·v|` -/
theorem mul_ite_neg (a v : K) : a * (if S.neg (a * v) = true then -v else v) = S.abs (a * v) := by
  rw [abs, mul_ite, mul_neg]

/-- the sign choice of Elligator in the non-square case -/
theorem ite_neg_false (z : K) : (if S.neg z = false then -z else z) = -S.abs z := by
  unfold abs; cases S.neg z <;> simp

theorem eq_of_sq_eq_of_neg_eq {a b : K} (h : a ^ 2 = b ^ 2) (hs : S.neg a = S.neg b) : a = b := by
  rcases sq_eq_sq_iff_eq_or_eq_neg.mp h with h1 | h1
  · exact h1
  · by_cases hb0 : b = 0
    · rw [h1, hb0, _root_.neg_zero]
    · rw [h1, S.neg_neg b hb0] at hs
      simp at hs

theorem abs_eq_abs_of_sq_eq {a b : K} (h : a ^ 2 = b ^ 2) : S.abs a = S.abs b :=
  S.eq_of_sq_eq_of_neg_eq (by rw [S.abs_sq, S.abs_sq, h]) ((S.abs_nonneg a).trans (S.abs_nonneg b).symm)

theorem abs_mul_sign {σ z : K} (hσ : σ = 1 ∨ σ = -1) : S.abs (σ * z) = S.abs z := by
  rcases hσ with rfl | rfl
  · rw [one_mul]
  · rw [neg_one_mul, S.abs_neg]

end Sign

/-- the four-case contract of `sqrt_ratio_zeta` (C09) -/
structure SqrtRatio (K : Type*) [Field K] (ζ : K) where
  sr : K → K → Bool × K
  num_zero : ∀ den, sr 0 den = (true, 0)
  den_zero : ∀ num, num ≠ 0 → sr num 0 = (false, 0)
  square : ∀ num den, num ≠ 0 → den ≠ 0 → IsSquare (num / den) → (sr num den).1 = true ∧ (sr num den).2 ^ 2 * den = num
  nonsquare : ∀ num den, num ≠ 0 → den ≠ 0 → ¬ IsSquare (num / den) →
    (sr num den).1 = false ∧ (sr num den).2 ^ 2 * den = ζ * num

theorem isSquare_iff_of_sq_mul {ζ x v : K} (hζ : ¬ IsSquare ζ) {f : Bool} (h : v ^ 2 * x = if f then 1 else ζ) :
    f = true ↔ IsSquare x := by
  cases f
  · rw [if_neg (by simp)] at h
    refine ⟨fun h => absurd h (by simp), fun ⟨w, hw⟩ => absurd ⟨v * w, ?_⟩ hζ⟩
    rw [← h, hw]; ring
  · rw [if_pos rfl] at h
    have hv : v ≠ 0 := by rintro rfl; simp at h
    exact ⟨fun _ => ⟨v⁻¹, by field_simp; linear_combination h⟩, fun _ => rfl⟩

/-- Encoding, decoding and Elligator ask the routine one question, `sr 1 den`: an inverse square root of `den`.
`IsqrtAns ζ den f v`: the contract allows `(f, v)` as the answer (`1/den` is a square exactly when `den` is).  What is
proved about the three maps assumes this of the answer and nothing of where it comes from. -/
structure IsqrtAns (ζ den : K) (f : Bool) (v : K) : Prop where
  zero : den = 0 → f = false ∧ v = 0
  square : den ≠ 0 → IsSquare den → f = true ∧ v ^ 2 * den = 1
  nonsquare : den ≠ 0 → ¬ IsSquare den → f = false ∧ v ^ 2 * den = ζ

theorem SqrtRatio.ans {ζ : K} (R : SqrtRatio K ζ) (den : K) : IsqrtAns ζ den (R.sr 1 den).1 (R.sr 1 den).2 where
  zero h := by rw [h, R.den_zero 1 one_ne_zero]; exact ⟨rfl, rfl⟩
  square h hs := R.square 1 den one_ne_zero h (by rwa [one_div, isSquare_inv])
  nonsquare h hs := by simpa using R.nonsquare 1 den one_ne_zero h (by rwa [one_div, isSquare_inv])

namespace IsqrtAns
variable {ζ den v : K} {f : Bool}

theorem flag (h : IsqrtAns ζ den f v) : f = true ↔ den ≠ 0 ∧ IsSquare den := by
  by_cases hd : den = 0
  · simp [hd, (h.zero hd).1]
  · by_cases hs : IsSquare den
    · simp [hd, hs, (h.square hd hs).1]
    · simp [hd, hs, (h.nonsquare hd hs).1]

theorem root (h : IsqrtAns ζ den f v) (hf : f = true) : v ^ 2 * den = 1 :=
  have ⟨hd, hs⟩ := h.flag.mp hf
  (h.square hd hs).2

theorem root_of_false (h : IsqrtAns ζ den f v) (hd : den ≠ 0) (hf : f = false) : v ^ 2 * den = ζ :=
  (h.nonsquare hd fun hs => by simp [(h.square hd hs).1] at hf).2

/-- where ζ is not a square the root equation alone makes `(f, v)` an allowed answer at `den ≠ 0`: it forces the flag -/
theorem of_sq_mul (hζ : ¬ IsSquare ζ) (hd : den ≠ 0) (h : v ^ 2 * den = if f then 1 else ζ) : IsqrtAns ζ den f v := by
  have hf := isSquare_iff_of_sq_mul hζ h
  refine ⟨fun h0 => absurd h0 hd, fun _ hs => ?_, fun _ hs => ?_⟩
  · obtain rfl := hf.mpr hs
    exact ⟨rfl, h⟩
  · obtain rfl : f = false := Bool.eq_false_iff.mpr (mt hf.mp hs)
    exact ⟨rfl, h⟩

end IsqrtAns

end Decaf
