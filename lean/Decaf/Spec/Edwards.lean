/-
The twisted Edwards curve  E : -x² + y² = 1 + d·x²y²  (a = -1) over a field in which -1 is a square and d is
not, with its complete addition law, as a commutative group.  Proved from scratch: completeness
(Bernstein–Lange), closure, associativity (cofactors in `Spec/EdwardsIdentities`).
-/
import Mathlib.Algebra.Field.Basic
import Mathlib.Algebra.Group.Even
import Mathlib.Algebra.Group.Subgroup.Basic
import Mathlib.Tactic.FieldSimp
import Mathlib.Tactic.LinearCombination
import Mathlib.Tactic.Ring
import Decaf.Spec.EdwardsIdentities

namespace Edwards

variable {K : Type*} [Field K]

/-- parameters of the curve and the arithmetic facts completeness needs -/
structure Params (K : Type*) [Field K] where
  d : K
  c : K
  hc : c ^ 2 = -1
  hd : ¬ IsSquare d
  h2 : (2 : K) ≠ 0

def OnCurve (d x y : K) : Prop := -x ^ 2 + y ^ 2 = 1 + d * x ^ 2 * y ^ 2

theorem mul_sq_ne_sq {d a : K} (hd : ¬ IsSquare d) (ha : a ≠ 0) (b : K) : d * a ^ 2 ≠ b ^ 2 := fun h =>
  hd ⟨b / a, by field_simp; linear_combination h⟩

/-- Bernstein–Lange completeness for a = -1 = c². -/
theorem complete (c d x1 y1 x2 y2 : K) (hc : c ^ 2 = -1) (hd : ¬ IsSquare d) (h2ne : (2 : K) ≠ 0)
    (h1 : -x1 ^ 2 + y1 ^ 2 = 1 + d * x1 ^ 2 * y1 ^ 2) (h2 : -x2 ^ 2 + y2 ^ 2 = 1 + d * x2 ^ 2 * y2 ^ 2)
    (hee : (d * x1 * x2 * y1 * y2) ^ 2 = 1) : False := by
  have hx1 : x1 ≠ 0 := by rintro rfl; simp at hee
  have hy1 : y1 ≠ 0 := by rintro rfl; simp at hee
  have hy2 : y2 ≠ 0 := by rintro rfl; simp at hee
  -- for σ = ±1, with e = d x₁x₂y₁y₂: d (x₁ y₁ (c x₂ + σ y₂))² = (c x₁ + σ e y₁)², so c x₂ + σ y₂ = 0
  have key : ∀ σ : K, σ ^ 2 = 1 → c * x2 + σ * y2 = 0 := by
    intro σ hσ
    by_contra hA
    refine mul_sq_ne_sq hd (mul_ne_zero (mul_ne_zero hx1 hy1) hA) (c * x1 + σ * (d * x1 * x2 * y1 * y2) * y1) ?_
    linear_combination (d * x1 ^ 2 * y1 ^ 2 * x2 ^ 2 - x1 ^ 2) * hc + (d * x1 ^ 2 * y1 ^ 2 * y2 ^ 2 - (d * x1 * x2 * y1 * y2) ^ 2 * y1 ^ 2) * hσ
      - y1 ^ 2 * hee + d * x1 ^ 2 * y1 ^ 2 * h2 + hee - h1
  -- the two signs together give 2 y₂ = 0
  have h : (2 : K) * y2 = 0 := by linear_combination key 1 (one_pow 2) - key (-1) (by ring)
  exact hy2 ((mul_eq_zero.mp h).resolve_left h2ne)

variable (P : Params K)

theorem denom_pos_ne_zero {x1 y1 x2 y2 : K} (h1 : OnCurve P.d x1 y1) (h2 : OnCurve P.d x2 y2) :
    1 + P.d * x1 * x2 * y1 * y2 ≠ 0 := fun h =>
  complete P.c P.d x1 y1 x2 y2 P.hc P.hd P.h2 h1 h2 (by linear_combination (P.d * x1 * x2 * y1 * y2 - 1) * h)

theorem denom_neg_ne_zero {x1 y1 x2 y2 : K} (h1 : OnCurve P.d x1 y1) (h2 : OnCurve P.d x2 y2) :
    1 - P.d * x1 * x2 * y1 * y2 ≠ 0 := fun h =>
  complete P.c P.d x1 y1 x2 y2 P.hc P.hd P.h2 h1 h2 (by linear_combination (-(P.d * x1 * x2 * y1 * y2) - 1) * h)

theorem one_sub_ne_zero (x : K) : 1 - P.d * x ^ 2 ≠ 0 := by
  intro h
  by_cases hx : x = 0
  · rw [hx] at h; simp at h
  · exact mul_sq_ne_sq P.hd hx 1 (by linear_combination -h)

/-- the affine addition law (a = -1) -/
def addX (d x1 y1 x2 y2 : K) : K := (x1 * y2 + y1 * x2) / (1 + d * x1 * x2 * y1 * y2)
def addY (d x1 y1 x2 y2 : K) : K := (y1 * y2 + x1 * x2) / (1 - d * x1 * x2 * y1 * y2)

theorem add_onCurve {x1 y1 x2 y2 : K} (h1 : OnCurve P.d x1 y1) (h2 : OnCurve P.d x2 y2) :
    OnCurve P.d (addX P.d x1 y1 x2 y2) (addY P.d x1 y1 x2 y2) := by
  have hp := denom_pos_ne_zero P h1 h2
  have hn := denom_neg_ne_zero P h1 h2
  unfold OnCurve addX addY
  have key := closure_num P.d x1 y1 x2 y2 h1 h2
  set B := 1 + P.d * x1 * x2 * y1 * y2
  set D := 1 - P.d * x1 * x2 * y1 * y2
  field_simp
  linear_combination key

@[ext] structure Point where
  x : K
  y : K
  on : OnCurve P.d x y

namespace Point
variable {P}

instance : Zero (Point P) := ⟨⟨0, 1, by simp [OnCurve]⟩⟩
instance : Add (Point P) := ⟨fun a b => ⟨addX P.d a.x a.y b.x b.y, addY P.d a.x a.y b.x b.y, add_onCurve P a.on b.on⟩⟩
instance : Neg (Point P) := ⟨fun a => ⟨-a.x, a.y, by have := a.on; simpa [OnCurve] using this⟩⟩

@[simp] theorem zero_x : (0 : Point P).x = 0 := rfl
@[simp] theorem zero_y : (0 : Point P).y = 1 := rfl
@[simp] theorem neg_x (a : Point P) : (-a).x = -a.x := rfl
@[simp] theorem neg_y (a : Point P) : (-a).y = a.y := rfl
theorem add_x (a b : Point P) : (a + b).x = addX P.d a.x a.y b.x b.y := rfl
theorem add_y (a b : Point P) : (a + b).y = addY P.d a.x a.y b.x b.y := rfl

theorem add_comm' (a b : Point P) : a + b = b + a := by
  ext
  · simp only [add_x, addX]; ring
  · simp only [add_y, addY]; ring

theorem zero_add' (a : Point P) : 0 + a = a := by
  ext
  · simp [add_x, addX]
  · simp [add_y, addY]

theorem neg_add_cancel' (a : Point P) : -a + a = 0 := by
  have h := a.on
  unfold OnCurve at h
  have hn := denom_neg_ne_zero P (-a).on a.on
  simp only [neg_x, neg_y] at hn
  ext
  · simp only [add_x, addX, neg_x, neg_y, zero_x]
    rw [div_eq_zero_iff]; left; ring
  · simp only [add_y, addY, neg_x, neg_y, zero_y]
    rw [div_eq_one_iff_eq hn]
    linear_combination h

/-- the x-coordinate of a sum whose first summand is given by fractions, over a common denominator -/
private theorem addX_div {d A B C D u v : K} (hB : B ≠ 0) (hD : D ≠ 0) (h : 1 + d * (A / B) * u * (C / D) * v ≠ 0) :
    B * D + d * A * C * u * v ≠ 0 ∧
      addX d (A / B) (C / D) u v = (A * D * v + C * B * u) / (B * D + d * A * C * u * v) := by
  have e : 1 + d * (A / B) * u * (C / D) * v = (B * D + d * A * C * u * v) / (B * D) := by field_simp
  have hBD := mul_ne_zero hB hD
  rw [e] at h
  refine ⟨fun h0 => h (by rw [h0, zero_div]), ?_⟩
  rw [addX, e, show A / B * v + C / D * u = (A * D * v + C * B * u) / (B * D) by field_simp,
    div_div_div_cancel_right₀ hBD]

theorem add_assoc_x (a b c : Point P) : (a + b + c).x = (a + (b + c)).x := by
  obtain ⟨nL, eL⟩ := addX_div (denom_pos_ne_zero P a.on b.on) (denom_neg_ne_zero P a.on b.on)
    (denom_pos_ne_zero P (a + b).on c.on)
  obtain ⟨nR, eR⟩ := addX_div (denom_pos_ne_zero P b.on c.on) (denom_neg_ne_zero P b.on c.on)
    (denom_pos_ne_zero P (b + c).on a.on)
  rw [add_comm' a (b + c)]
  refine (eL.trans ?_).trans eR.symm
  rw [div_eq_div_iff nL nR]
  linear_combination assoc_x_num P.d a.x a.y b.x b.y c.x c.y a.on b.on c.on

theorem neg_add' (a b : Point P) : -(a + b) = -a + -b := by
  ext
  · simp only [neg_x, neg_y, add_x, addX]; ring
  · simp only [neg_x, neg_y, add_y, addY]; ring

/-- the quarter turn `a ↦ (c, 0) - a` exchanges the two coordinates (c² = -1), so that associativity in y is
associativity in x of the turned points -/
private def turn (a : Point P) : Point P :=
  ⟨P.c * a.y, -(P.c * a.x), by
    have := a.on; unfold OnCurve at *
    linear_combination (a.x ^ 2 - a.y ^ 2 - P.d * a.x ^ 2 * a.y ^ 2 * (P.c ^ 2 - 1)) * P.hc + this⟩

private theorem turn_add (a b : Point P) : turn (a + b) = turn a + -b := by
  have e1 : 1 + P.d * (P.c * a.y) * -b.x * -(P.c * a.x) * b.y = 1 - P.d * a.x * b.x * a.y * b.y := by
    linear_combination (P.d * a.x * b.x * a.y * b.y) * P.hc
  have e2 : 1 - P.d * (P.c * a.y) * -b.x * -(P.c * a.x) * b.y = 1 + P.d * a.x * b.x * a.y * b.y := by
    linear_combination (-(P.d * a.x * b.x * a.y * b.y)) * P.hc
  ext
  · simp only [turn, add_x, add_y, addX, addY, neg_x, neg_y, e1]; ring
  · simp only [turn, add_x, add_y, addX, addY, neg_x, neg_y, e2]; ring

theorem add_assoc' (a b c : Point P) : a + b + c = a + (b + c) := by
  ext
  · exact add_assoc_x a b c
  · have h := add_assoc_x (turn a) (-b) (-c)
    rw [← turn_add, ← turn_add, ← neg_add', ← turn_add] at h
    exact mul_left_cancel₀ (fun h0 => by simpa [h0] using P.hc) h

instance : AddCommGroup (Point P) where
  add_assoc := add_assoc'
  zero_add := zero_add'
  add_zero a := by rw [add_comm', zero_add']
  add_comm := add_comm'
  neg_add_cancel := neg_add_cancel'
  nsmul := nsmulRec
  zsmul := zsmulRec

end Point
end Edwards
