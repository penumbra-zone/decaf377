/-
Extended twisted Edwards coordinates (X:Y:Z:T), x = X/Z, y = Y/Z, T·Z = X·Y, over any field:
the Hisil–Wong–Carter–Dawson addition (8M + 1D, k = 2d) and the dedicated doubling used by
`min_curve/element.rs` compute the affine law of `Spec/Edwards`, for every pair of points (complete).
-/
import Decaf.Spec.Edwards

namespace Edwards
variable {K : Type*} [Field K]

/-- `(X,Y,Z,T)` represents the affine point `(x,y)` -/
structure Repr (X Y Z T x y : K) : Prop where
  z : Z ≠ 0
  hx : X = x * Z
  hy : Y = y * Z
  ht : T * Z = X * Y

theorem Repr.t_eq {X Y Z T x y : K} (h : Repr X Y Z T x y) : T = x * y * Z :=
  mul_right_cancel₀ h.z (by rw [h.ht, h.hx, h.hy]; ring)

/-- the shape both formulas below end in: `x = E/G` and `y = H/F`, given up to common factors -/
theorem Repr.of_scaled {E F G H k k' a b c e : K} (hk : k ≠ 0) (hk' : k' ≠ 0) (hb : b ≠ 0) (he : e ≠ 0)
    (hE : E = k * a) (hG : G = k * b) (hH : H = k' * c) (hF : F = k' * e) :
    Repr (E * F) (G * H) (F * G) (E * H) (a / b) (c / e) := by
  subst hE hG hH hF
  exact ⟨mul_ne_zero (mul_ne_zero hk' he) (mul_ne_zero hk hb), by field_simp, by field_simp, by ring⟩

theorem hwcd_add (P : Params K) {X1 Y1 Z1 T1 X2 Y2 Z2 T2 x1 y1 x2 y2 : K}
    (r1 : Repr X1 Y1 Z1 T1 x1 y1) (r2 : Repr X2 Y2 Z2 T2 x2 y2)
    (h1 : OnCurve P.d x1 y1) (h2 : OnCurve P.d x2 y2) (k : K) (hk : k = 2 * P.d) :
    let A := (Y1 - X1) * (Y2 - X2)
    let B := (Y1 + X1) * (Y2 + X2)
    let C := k * T1 * T2
    let D := (Z1 + Z1) * Z2
    let E := B - A
    let F := D - C
    let G := D + C
    let H := B + A
    Repr (E * F) (G * H) (F * G) (E * H) (addX P.d x1 y1 x2 y2) (addY P.d x1 y1 x2 y2) := by
  intro A B C D E F G H
  have hz : 2 * Z1 * Z2 ≠ 0 := mul_ne_zero (mul_ne_zero P.h2 r1.z) r2.z
  refine Repr.of_scaled hz hz (denom_pos_ne_zero P h1 h2) (denom_neg_ne_zero P h1 h2) ?_ ?_ ?_ ?_ <;>
    simp only [E, F, G, H, A, B, C, D, hk, r1.t_eq, r2.t_eq, r1.hx, r1.hy, r2.hx, r2.hy] <;> ring

theorem hwcd_double (P : Params K) {X Y Z T x y : K} (r : Repr X Y Z T x y) (h : OnCurve P.d x y) :
    let a := X ^ 2
    let b := Y ^ 2
    let c := Z ^ 2 + Z ^ 2
    let d' := -a
    let e := (X + Y) ^ 2 - a - b
    let g := d' + b
    let f := g - c
    let h' := d' - b
    Repr (e * f) (g * h') (f * g) (e * h') (addX P.d x y x y) (addY P.d x y x y) := by
  intro a b c d' e g f h'
  have hz : Z ^ 2 ≠ 0 := pow_ne_zero 2 r.z
  -- g = Z²(y² - x²) = Z²(1 + d x²y²) on the curve, and f = g - 2Z²
  have hg : g = Z ^ 2 * (1 + P.d * x * x * y * y) := by
    simp only [g, d', a, b, r.hx, r.hy]; unfold OnCurve at h; linear_combination Z ^ 2 * h
  refine Repr.of_scaled hz (neg_ne_zero.mpr hz) (denom_pos_ne_zero P h h) (denom_neg_ne_zero P h h) ?_ hg ?_ ?_
  · simp only [e, a, b, r.hx, r.hy]; ring
  · simp only [h', d', a, b, r.hx, r.hy]; ring
  · simp only [f, c, hg]; ring

theorem repr_neg {X Y Z T x y : K} (r : Repr X Y Z T x y) : Repr (-X) Y Z (-T) (-x) y :=
  ⟨r.z, by rw [r.hx]; ring, r.hy, by have := r.ht; linear_combination -this⟩

theorem repr_affine {x y : K} : Repr x y 1 (x * y) x y := ⟨one_ne_zero, by ring, by ring, by ring⟩

theorem repr_div {X Y Z T x y : K} (r : Repr X Y Z T x y) : X * Z⁻¹ = x ∧ Y * Z⁻¹ = y :=
  ⟨by rw [r.hx, mul_inv_cancel_right₀ r.z], by rw [r.hy, mul_inv_cancel_right₀ r.z]⟩

end Edwards
