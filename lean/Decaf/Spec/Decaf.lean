/-
The Decaf quotient of E: the 2-torsion point T2 = (0,-1), the coset relation P ~ P + T2 (the 2-torsion of E is
{O, T2}, so P ~ Q iff 2P = 2Q), the equality test x₁y₂ = y₁x₂ (which decides the coset relation on all of E), and
the even subgroup 𝔾 = {P | 1 - d·x² is a square}, shown to be a subgroup containing T2 and every double — without
point counting.
-/
import Decaf.Spec.Edwards
import Mathlib.Tactic.Abel

namespace Edwards
variable {K : Type*} [Field K] {P : Params K}

namespace Point

/-- the point of order two -/
def T2 : Point P := ⟨0, -1, by simp [OnCurve]⟩

@[simp] theorem T2_x : (T2 : Point P).x = 0 := rfl
@[simp] theorem T2_y : (T2 : Point P).y = -1 := rfl

theorem add_T2_x (a : Point P) : (a + T2).x = -a.x := by simp [add_x, addX]
theorem add_T2_y (a : Point P) : (a + T2).y = -a.y := by simp [add_y, addY]

theorem T2_add_T2 : (T2 + T2 : Point P) = 0 := by
  ext <;> simp [add_T2_x, add_T2_y]

def Coset (a b : Point P) : Prop := b = a ∨ b = a + T2

theorem Coset.refl (a : Point P) : Coset a a := Or.inl rfl

theorem x_eq_zero_iff (a : Point P) : a.x = 0 ↔ a = 0 ∨ a = T2 := by
  refine ⟨fun hx => ?_, by rintro (rfl | rfl) <;> rfl⟩
  have hon := a.on
  rw [OnCurve, hx] at hon
  have hy : (a.y - 1) * (a.y + 1) = 0 := by linear_combination hon
  exact (mul_eq_zero.mp hy).imp (fun h => Point.ext hx (sub_eq_zero.mp h))
    fun h => Point.ext hx (eq_neg_of_add_eq_zero_left h)

theorem add_self_eq_zero_iff (a : Point P) : a + a = 0 ↔ a = 0 ∨ a = T2 := by
  rw [← x_eq_zero_iff, add_eq_zero_iff_eq_neg, Point.ext_iff, neg_x, neg_y, and_iff_left rfl,
    eq_neg_iff_add_eq_zero, ← two_mul, mul_eq_zero, or_iff_right P.h2]

/-- the coset relation is the kernel pair of doubling: `b - a` is O or T2 iff it is killed by 2 -/
theorem coset_iff_double (a b : Point P) : Coset a b ↔ a + a = b + b := by
  have h := add_self_eq_zero_iff (b - a)
  rw [show b - a + (b - a) = b + b - (a + a) by abel, sub_eq_zero, sub_eq_zero, sub_eq_iff_eq_add'] at h
  exact h.symm.trans eq_comm

theorem Coset.symm {a b : Point P} (h : Coset a b) : Coset b a := by
  rw [coset_iff_double] at *
  exact h.symm

theorem Coset.trans {a b c : Point P} (h1 : Coset a b) (h2 : Coset b c) : Coset a c := by
  rw [coset_iff_double] at *
  exact h1.trans h2

theorem Coset.add {a b a' b' : Point P} (h1 : Coset a a') (h2 : Coset b b') : Coset (a + b) (a' + b') := by
  rw [coset_iff_double] at *
  rw [add_add_add_comm, h1, h2, add_add_add_comm]

theorem Coset.neg {a a' : Point P} (h : Coset a a') : Coset (-a) (-a') := by
  rw [coset_iff_double] at *
  rw [← neg_add, h, neg_add]

theorem coset_iff_coords (a b : Point P) : Coset a b ↔ (b.x = a.x ∧ b.y = a.y) ∨ (b.x = -a.x ∧ b.y = -a.y) := by
  rw [Coset, Point.ext_iff, Point.ext_iff, add_T2_x, add_T2_y]

/-- **Decaf equality**: the cross-multiplication test decides the coset relation, on all of E: it says that the
difference of the two points has x = 0. -/
theorem cross_eq_iff_coset (a b : Point P) : a.x * b.y = a.y * b.x ↔ Coset a b := by
  have h : (b + -a).x = 0 ↔ a.x * b.y = a.y * b.x := by
    rw [add_x, addX, div_eq_zero_iff, or_iff_left (denom_pos_ne_zero P b.on (-a).on), neg_x, neg_y]
    constructor <;> intro h <;> linear_combination -h
  rw [← h, x_eq_zero_iff, add_neg_eq_zero, add_neg_eq_iff_eq_add, add_comm T2 a]
  rfl

/-- membership in the image of the decaf377 group: `1 - d·x²` is a square -/
def IsEven (a : Point P) : Prop := IsSquare (1 - P.d * a.x ^ 2)

theorem isEven_zero : IsEven (0 : Point P) := ⟨1, by simp⟩
theorem isEven_T2 : IsEven (T2 : Point P) := ⟨1, by simp⟩
theorem isEven_neg {a : Point P} (h : IsEven a) : IsEven (-a) := by
  unfold IsEven at *; simpa using h

/-- `a ↦ 1 - d·x²` is multiplicative up to squares -/
theorem char_add (a b : Point P) :
    1 - P.d * (a + b).x ^ 2 =
      ((1 - P.d * (a.x ^ 2 + b.x ^ 2 + a.x ^ 2 * b.x ^ 2)) / (1 + P.d * a.x * b.x * a.y * b.y)) ^ 2 /
        ((1 - P.d * a.x ^ 2) * (1 - P.d * b.x ^ 2)) := by
  have key : ∀ {A B u v S : K}, B ≠ 0 → u ≠ 0 → v ≠ 0 → (B ^ 2 - P.d * A ^ 2) * u * v = S ^ 2 →
      1 - P.d * (A / B) ^ 2 = (S / B) ^ 2 / (u * v) := by
    intro A B u v S hB hu hv h; field_simp; linear_combination h
  exact key (denom_pos_ne_zero P a.on b.on) (one_sub_ne_zero P a.x) (one_sub_ne_zero P b.x)
    (char_mul P.d a.x a.y b.x b.y a.on b.on)

theorem isEven_add {a b : Point P} (ha : IsEven a) (hb : IsEven b) : IsEven (a + b) := by
  rw [IsEven, char_add]; exact (IsSquare.sq _).div (ha.mul hb)

theorem isEven_double (a : Point P) : IsEven (a + a) := by
  rw [IsEven, char_add]; exact (IsSquare.sq _).div (IsSquare.mul_self _)

/-- where `1 + d` is not a square the even points are off the x-axis: at y = 0 the curve gives `1 - d·x² = 1 + d` -/
theorem _root_.Edwards.y_ne_zero_of_even (hd1 : ¬ IsSquare (1 + P.d)) {x y : K} (hc : OnCurve P.d x y)
    (he : IsSquare (1 - P.d * x ^ 2)) : y ≠ 0 := by
  rintro rfl
  unfold OnCurve at hc
  rw [show 1 - P.d * x ^ 2 = 1 + P.d by linear_combination P.d * hc] at he
  exact hd1 he

def even (P : Params K) : AddSubgroup (Point P) where
  carrier := {a | IsEven a}
  add_mem' := isEven_add
  zero_mem' := isEven_zero
  neg_mem' := isEven_neg

theorem T2_mem_even : (T2 : Point P) ∈ even P := isEven_T2

theorem isEven_of_coset {a b : Point P} (h : Coset a b) (ha : IsEven a) : IsEven b := by
  rcases h with rfl | rfl
  · exact ha
  · exact isEven_add ha isEven_T2

end Point
end Edwards
