/-
The 2-power torsion of E beyond {O, T2} (Spec/Decaf), elementary and field-generic:
a point whose double is T2 has y = 0; where 1 + d is not a square no even point has y = 0 (`y_ne_zero_of_even`,
Spec/Decaf), in particular no double: there is no point of order 8.  Consequences used for the group order (DESIGN.md §5.7):
  8•Q = 0 → 4•Q = 0,   and   Q even ∧ 4•Q = 0 → Q ∈ {O, T2}.
-/
import Decaf.Spec.Decaf

namespace Edwards
variable {K : Type*} [Field K] {P : Params K}

namespace Point

theorem T2_ne_zero : (T2 : Point P) ≠ 0 := by
  intro h
  have hy := congrArg Point.y h
  rw [T2_y, zero_y] at hy
  apply P.h2
  linear_combination -hy

theorem y_eq_zero_of_add_self_eq_T2 {a : Point P} (h : a + a = T2) : a.y = 0 := by
  have hx : (a.x * a.y + a.y * a.x) / _ = 0 := congrArg Point.x h
  have hn := (div_eq_zero_iff.mp hx).resolve_right (denom_pos_ne_zero P a.on a.on)
  have hx : a.x * a.y = 0 :=
    (mul_eq_zero.mp (show 2 * (a.x * a.y) = 0 by linear_combination hn)).resolve_left P.h2
  refine (mul_eq_zero.mp hx).resolve_left fun h4 => T2_ne_zero (P := P) ?_
  rw [← h, add_self_eq_zero_iff, ← x_eq_zero_iff]; exact h4

/-- an even point of 4-torsion is O or T2 (so E has no even point of order 4) -/
theorem even_four_torsion (h1d : ¬ IsSquare (1 + P.d)) {Q : Point P} (he : IsEven Q) (h4 : 4 • Q = 0) : Q = 0 ∨ Q = T2 := by
  rw [show (4 : ℕ) = 2 + 2 from rfl, add_nsmul, two_nsmul, add_self_eq_zero_iff] at h4
  rcases h4 with h | h
  · exact (add_self_eq_zero_iff Q).mp h
  · exact absurd (y_eq_zero_of_add_self_eq_T2 h) (y_ne_zero_of_even h1d Q.on he)

/-- 8-torsion is 4-torsion (no point of order 8): the double of an 8-torsion point is even and of 4-torsion -/
theorem four_nsmul_eq_zero_of_eight (h1d : ¬ IsSquare (1 + P.d)) {Q : Point P} (h8 : 8 • Q = 0) : 4 • Q = 0 := by
  have h4 : 4 • (Q + Q) = 0 := by rw [← two_nsmul, ← mul_nsmul]; exact h8
  rw [show (4 : ℕ) = 2 + 2 from rfl, add_nsmul, two_nsmul, add_self_eq_zero_iff]
  exact even_four_torsion h1d (isEven_double Q) h4

/-- the point (c, 0), c² = -1, of order four -/
def C4 : Point P := ⟨P.c, 0, by unfold OnCurve; rw [P.hc]; ring⟩

theorem C4_add_C4 : (C4 + C4 : Point P) = T2 := by
  ext
  · rw [add_x, T2_x]; unfold addX C4; simp
  · rw [add_y, T2_y]; unfold addY C4
    simp only [mul_zero, zero_add, sub_zero, div_one]
    rw [← sq, P.hc]

end Point
end Edwards
