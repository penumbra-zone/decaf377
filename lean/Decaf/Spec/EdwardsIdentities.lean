/-
Polynomial identities on the twisted Edwards curve -x² + y² = 1 + d·x²y² over any commutative ring; each is checked by
`linear_combination` (hence by `ring`).  The cofactors of `assoc_x_num` and `char_mul` come from Gröbner reductions
(sympy `reduced`, grevlex; tools/gen_identities.py), for `assoc_x_num` of the difference of the two sides divided by
d·x₂·y₂.
-/
import Mathlib.Tactic.LinearCombination
import Mathlib.Tactic.Ring

namespace Edwards
variable {K : Type*} [CommRing K]

theorem closure_num (d x1 y1 x2 y2 : K) (h1 : -x1^2 + y1^2 = 1 + d*x1^2*y1^2) (h2 : -x2^2 + y2^2 = 1 + d*x2^2*y2^2) :
    -(x1*y2 + y1*x2)^2*(1 - d*x1*x2*y1*y2)^2 + (y1*y2 + x1*x2)^2*(1 + d*x1*x2*y1*y2)^2 = (1 + d*x1*x2*y1*y2)^2*(1 - d*x1*x2*y1*y2)^2 + d*(x1*y2 + y1*x2)^2*(y1*y2 + x1*x2)^2 := by
  -- with tᵢ = xᵢyᵢ: (xᵢ² + yᵢ²)² = (1 + d tᵢ²)² + 4tᵢ², and the difference of the two sides is a polynomial in these
  have q1 : (x1^2 + y1^2)^2 = (1 + d*x1^2*y1^2)^2 + 4*x1^2*y1^2 := by linear_combination (y1^2 - x1^2 + 1 + d*x1^2*y1^2) * h1
  have q2 : (x2^2 + y2^2)^2 = (1 + d*x2^2*y2^2)^2 + 4*x2^2*y2^2 := by linear_combination (y2^2 - x2^2 + 1 + d*x2^2*y2^2) * h2
  linear_combination (1 + (d*x1*x2*y1*y2)^2) * ((y2^2 - x2^2) * h1 + (1 + d*x1^2*y1^2) * h2) - d*x1^2*y1^2 * q2 - d*x2^2*y2^2 * q1

theorem assoc_x_num (d x1 y1 x2 y2 x3 y3 : K) (h1 : -x1^2 + y1^2 = 1 + d*x1^2*y1^2) (h2 : -x2^2 + y2^2 = 1 + d*x2^2*y2^2) (h3 : -x3^2 + y3^2 = 1 + d*x3^2*y3^2) :
    (d*x1^2*x2^2*x3*y1*y2 - d*x1^2*x2*y1*y2^2*y3 - d*x1*x2^2*y1^2*y2*y3 + d*x1*x2*x3*y1^2*y2^2 + x1*x2*x3 + x1*y2*y3 + x2*y1*y3 + x3*y1*y2) * (-d^2*x2^2*x3^2*y2^2*y3^2 + d*x1*x2^2*x3*y1*y3 + d*x1*x2*x3^2*y1*y2 + d*x1*x2*y1*y2*y3^2 + d*x1*x3*y1*y2^2*y3 + 1) = (d*x1*x2^2*x3^2*y2*y3 + d*x1*x2*x3*y2^2*y3^2 - d*x2^2*x3*y1*y2*y3^2 - d*x2*x3^2*y1*y2^2*y3 + x1*x2*x3 + x1*y2*y3 + x2*y1*y3 + x3*y1*y2) * (-d^2*x1^2*x2^2*y1^2*y2^2 + d*x1^2*x2*x3*y2*y3 + d*x1*x2^2*x3*y1*y3 + d*x1*x3*y1*y2^2*y3 + d*x2*x3*y1^2*y2*y3 + 1) := by
  linear_combination (d*x2*y2) * ((-d*x1*x2^3*x3^2*y2^2*y3 - d*x1*x2^2*x3*y2^3*y3^2 + d*x2^3*x3*y1*y2^2*y3^2 + d*x2^2*x3^2*y1*y2^3*y3 - x1*x2^3*x3^2*y3 - x1*x2^2*x3^3*y2 - x1*x2^2*x3*y2 + x1*x2*y2^2*y3^3 - x1*x2*y2^2*y3 + x1*x3*y2^3*y3^2 + x2^3*x3*y1*y3^2 + x2^2*y1*y2*y3^3 - x2^2*y1*y2*y3 - x2*x3^3*y1*y2^2 - x2*x3*y1*y2^2 - x3^2*y1*y2^3*y3) * h1 + (d*x1^2*x2*x3^3*y1*y3^2 - d*x1^2*x3^2*y1*y2*y3^3 - d*x1*x2*x3^2*y1^2*y3^3 + d*x1*x3^3*y1^2*y2*y3^2 + x1^3*x2*x3^2*y3 + x1^3*x3*y2*y3^2 - x1^2*x2*x3*y1*y3^2 - x1^2*x3^2*y1*y2*y3 - x1*x2*x3^2*y1^2*y3 + x1*x2*x3^2*y3 - x1*x3*y1^2*y2*y3^2 + x1*x3*y2*y3^2 + x2*x3*y1^3*y3^2 - x2*x3*y1*y3^2 + x3^2*y1^3*y2*y3 - x3^2*y1*y2*y3) * h2 + (x1^3*x2^2*x3*y2 + x1^3*x2*y2^2*y3 + x1^2*x2^2*y1*y2*y3 + x1^2*x2*x3*y1*y2^2 - x1^2*x2*x3*y1 + x1^2*y1*y2*y3 - x1*x2^2*x3*y1^2*y2 + x1*x2^2*x3*y2 - x1*x2*y1^2*y2^2*y3 + x1*x2*y1^2*y3 + x1*x2*y2^2*y3 - x1*x3*y1^2*y2 - x2^2*y1^3*y2*y3 + x2^2*y1*y2*y3 - x2*x3*y1^3*y2^2 + x2*x3*y1*y2^2) * h3)

theorem char_mul (d x1 y1 x2 y2 : K) (h1 : -x1^2 + y1^2 = 1 + d*x1^2*y1^2) (h2 : -x2^2 + y2^2 = 1 + d*x2^2*y2^2) :
    ((1 + d*x1*x2*y1*y2)^2 - d*(x1*y2 + y1*x2)^2) * (1 - d*x1^2) * (1 - d*x2^2) = (1 - d*(x1^2 + x2^2 + x1^2*x2^2))^2 := by
  linear_combination (-d^3*x1^2*x2^4*y2^2 + d^2*x1^2*x2^2*y2^2 + d^2*x2^4 - d*x2^2) * h1 + (d^2*x1^4*x2^2 + d^2*x1^4 + d^2*x1^2*x2^2 - d*x1^2) * h2

end Edwards