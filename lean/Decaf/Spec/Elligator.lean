/-
The Elligator 2 map of decaf377 over an arbitrary field: the optimised formulas (`elligator.rs`,
`min_curve/element.rs`), as a function `elligatorFA` of the answer `(f, v)` the square-root routine gives to the one
question they ask, `sr 1 (num·den)`, against the specification of ristretto.sage (`Decaf_1_1_Point.elligatorSpec`
followed by `fromJacobiQuartic`, a = -1, qnr = ζ), stated relationally:

  r = ζ·r₀²,  den = (dr - (d-a))((d-a)r - d),  n₁ = (r+1)(a-2d)/den,  n₂ = r·n₁;
  if n₁ is a square:  s = the non-negative root of n₁,        t = -(r-1)(a-2d)²/den - 1
  otherwise:          s = -(the non-negative root of n₂),     t = r(r-1)(a-2d)²/den - 1;
  the point is (2s/(1+as²), (1-as²)/t).

`elligatorFA_spec` assumes of the answer only `IsqrtAns` (Spec/Sign.lean): it holds for what any routine meeting the
contract returns and for a witness satisfying the R1CS constraints.

sage's `den == 0` branch is unreachable (`ellDen_ne_zero`).  Its `s == 0` branch is reached at r₀ = 0, where n₂ = 0:
sage returns (0, 1) there, the relation (t = -1) and the optimised formulas give (0, -1), the other member of the
identity coset — the same group element.
-/
import Decaf.Spec.Encoding

namespace Decaf
open Edwards

variable {K : Type*} [Field K] (P : Params K) (S : Sign K) {ζ : K}

def ellDen (r : K) : K := (P.d * r - (P.d + 1)) * ((P.d + 1) * r - P.d)
def ellNum (r : K) : K := (r + 1) * (-1 - 2 * P.d)

/-- the optimised map as a function of the answer `(f, v)` of the square-root routine to `sr 1 (num·den)`, returning
extended coordinates (X, Y, Z, T) -/
def elligatorFA (ζ r0 : K) (f : Bool) (v : K) : K × K × K × K :=
  let r := ζ * r0 ^ 2
  let num := ellNum P r
  let sgn : K := if f then 1 else -1
  let tw : K := if f then 1 else r0
  let isri := v * tw
  let s := isri * num
  let t := -sgn * isri * s * (r - 1) * (-1 - 2 * P.d) ^ 2 - 1
  let s := if S.neg s = f then -s else s
  let E := 2 * s
  let F := 1 + -1 * s ^ 2
  let G := 1 - -1 * s ^ 2
  let H := t
  (E * H, F * G, F * H, E * G)

def ElligatorTo (ζ : K) (r0 x y : K) : Prop :=
  let r := ζ * r0 ^ 2
  let n1 := ellNum P r / ellDen P r
  ∃ s t : K,
    ((IsSquare n1 ∧ s ^ 2 = n1 ∧ S.neg s = false ∧ t = -(r - 1) * (-1 - 2 * P.d) ^ 2 / ellDen P r - 1) ∨
     (¬ IsSquare n1 ∧ s ^ 2 = r * n1 ∧ S.neg (-s) = false ∧ t = r * (r - 1) * (-1 - 2 * P.d) ^ 2 / ellDen P r - 1)) ∧
    x = 2 * s / (1 - s ^ 2) ∧ y = (1 + s ^ 2) / t

/-- the two cases of the specification, as a relation between r₀ and the point (s, t) of the Jacobi quartic -/
def EllST (ζ r0 s t : K) : Prop :=
  let r := ζ * r0 ^ 2
  let n1 := ellNum P r / ellDen P r
  (IsSquare n1 ∧ s ^ 2 = n1 ∧ S.neg s = false ∧ t = -(r - 1) * (-1 - 2 * P.d) ^ 2 / ellDen P r - 1) ∨
  (¬ IsSquare n1 ∧ s ^ 2 = r * n1 ∧ S.neg (-s) = false ∧ t = r * (r - 1) * (-1 - 2 * P.d) ^ 2 / ellDen P r - 1)

variable {P S}

/-- invariance under r₀ ↦ -r₀ is built into the specification -/
theorem ElligatorTo.neg_iff {r0 x y : K} : ElligatorTo P S ζ (-r0) x y ↔ ElligatorTo P S ζ r0 x y := by
  unfold ElligatorTo; simp only [neg_sq]

/-- the hypotheses on the constants under which the map is defined everywhere -/
structure EllHyp (P : Params K) (ζ : K) : Prop where
  zeta : ¬ IsSquare ζ
  h1 : ¬ IsSquare ((P.d + 1) / (P.d * ζ))
  h2 : ¬ IsSquare (P.d / ((P.d + 1) * ζ))
  h3 : (1 : K) + 2 * P.d ≠ 0

theorem ellDen_ne_zero (H : EllHyp P ζ) (r0 : K) : ellDen P (ζ * r0 ^ 2) ≠ 0 := by
  have hd0 : P.d ≠ 0 := fun h => P.hd (by rw [h]; exact IsSquare.zero)
  have hz0 : ζ ≠ 0 := fun h => H.zeta (by rw [h]; exact IsSquare.zero)
  have hd1 : P.d + 1 ≠ 0 := by rw [add_comm]; exact one_add_d_ne_zero
  unfold ellDen
  -- where a factor vanishes, r₀² is one of the two quotients assumed non-square
  refine mul_ne_zero (fun h => H.h1 ⟨r0, ?_⟩) (fun h => H.h2 ⟨r0, ?_⟩)
  · rw [div_eq_iff (mul_ne_zero hd0 hz0)]; linear_combination -h
  · rw [div_eq_iff (mul_ne_zero hd1 hz0)]; linear_combination -h

theorem ellNum_ne_zero (H : EllHyp P ζ) (r0 : K) : ellNum P (ζ * r0 ^ 2) ≠ 0 := by
  unfold ellNum
  refine mul_ne_zero (fun h => ?_) (fun h => H.h3 (by linear_combination -h))
  by_cases hr0 : r0 = 0
  · subst hr0; simp at h
  · -- ζ·r₀² = -1 = c²
    exact mul_sq_ne_sq H.zeta hr0 P.c (by linear_combination h - P.hc)

theorem EllST.quartic (H : EllHyp P ζ) {r0 s t : K} (h : EllST P S ζ r0 s t) : t ^ 2 = u2 P s := by
  have hd := ellDen_ne_zero H r0
  -- with s² = n/D and t = A/D - 1 the quartic equation, cleared of D, is a polynomial identity in r and d
  have key : ∀ {n A D : K}, D ≠ 0 → (A - D) ^ 2 = (D - n) ^ 2 - 4 * P.d * n * D → s ^ 2 = n / D → t = A / D - 1 →
      t ^ 2 = u2 P s := by
    intro n A D hD h hs ht
    rw [u2, hs, ht]; field_simp; linear_combination h
  rcases h with ⟨_, hs, _, ht⟩ | ⟨_, hs, _, ht⟩
  · exact key hd (by unfold ellNum ellDen; ring) hs ht
  · exact key hd (by unfold ellNum ellDen; ring) (hs.trans (mul_div_assoc' _ _ _)) ht

/-- the extended coordinates (EH : FG : FH : EG) of the image of a point of the Jacobi quartic -/
theorem jq_repr {s t : K} (ht : t ^ 2 = u2 P s) :
    Repr (2 * s * t) ((1 + -1 * s ^ 2) * (1 - -1 * s ^ 2)) ((1 + -1 * s ^ 2) * t) (2 * s * (1 - -1 * s ^ 2))
      (2 * s / (1 - s ^ 2)) ((1 + s ^ 2) / t) := by
  have hu1 := one_sub_sq_ne_zero_of_root ht
  have ht0 := ne_zero_of_root ht
  have hF : (1 + -1 * s ^ 2) = 1 - s ^ 2 := by ring
  rw [hF]
  exact ⟨mul_ne_zero hu1 ht0, by field_simp, by field_simp; ring, by ring⟩

theorem isSquare_mul_iff_div {a b : K} (hb : b ≠ 0) : IsSquare (a * b) ↔ IsSquare (a / b) := by
  constructor <;> rintro ⟨w, hw⟩
  · exact ⟨w / b, by rw [div_mul_div_comm, ← hw, mul_div_mul_right _ _ hb]⟩
  · exact ⟨w * b, by rw [mul_mul_mul_comm, ← hw]; field_simp⟩

/-- **the optimised map computes the specified map**, whichever allowed answer the routine gives: its output represents
a point of the even subgroup which the specification defines, for every r₀ (no division by zero anywhere: Z ≠ 0 is part
of `Repr`) -/
theorem elligatorFA_spec (H : EllHyp P ζ) (r0 : K) {f : Bool} {v : K}
    (hA : IsqrtAns ζ (ellNum P (ζ * r0 ^ 2) * ellDen P (ζ * r0 ^ 2)) f v) :
    ∃ x y, Repr (elligatorFA P S ζ r0 f v).1 (elligatorFA P S ζ r0 f v).2.1 (elligatorFA P S ζ r0 f v).2.2.1
        (elligatorFA P S ζ r0 f v).2.2.2 x y ∧
      ElligatorTo P S ζ r0 x y ∧ OnCurve P.d x y ∧ IsSquare (1 - P.d * x ^ 2) := by
  have hden := ellDen_ne_zero H r0
  have hnum := ellNum_ne_zero H r0
  -- it suffices to exhibit the point (s, t) of the specification from which the four coordinates are computed
  suffices h : ∃ s t, EllST P S ζ r0 s t ∧ elligatorFA P S ζ r0 f v =
      (2 * s * t, (1 + -1 * s ^ 2) * (1 - -1 * s ^ 2), (1 + -1 * s ^ 2) * t, 2 * s * (1 - -1 * s ^ 2)) by
    obtain ⟨s, t, hst, e⟩ := h
    have hq := hst.quartic H
    rw [e]
    exact ⟨_, _, jq_repr hq, ⟨s, t, hst, rfl, rfl⟩, onCurve_of_root hq, isEven_of_root hq⟩
  unfold elligatorFA EllST
  dsimp only
  have hflag := hA.flag
  rw [isSquare_mul_iff_div hden, and_iff_right (mul_ne_zero hnum hden)] at hflag
  generalize hr : ζ * r0 ^ 2 = r at hden hnum hflag hA ⊢
  cases f <;> simp only [Bool.false_eq_true, ↓reduceIte]
  · -- non-square: v² num den = ζ, s = -|v r₀ num|
    have hi := hA.root_of_false (mul_ne_zero hnum hden) rfl
    refine ⟨_, _, .inr ⟨by rw [← hflag]; simp, ?_, ?_, ?_⟩, rfl⟩
    · rw [S.ite_neg_false, neg_sq, S.abs_sq, mul_div_assoc', eq_div_iff hden]
      linear_combination (ellNum P r * r0 ^ 2) * hi + ellNum P r * hr
    · rw [S.ite_neg_false, neg_neg]; exact S.abs_nonneg _
    · rw [sub_left_inj, eq_div_iff hden]
      linear_combination ((r - 1) * (-1 - 2 * P.d) ^ 2) * (r0 ^ 2 * hi + hr)
  · -- square: v² num den = 1, s = |v num|
    have hi := hA.root rfl
    refine ⟨_, _, .inl ⟨hflag.mp rfl, ?_, ?_, ?_⟩, rfl⟩
    · rw [show (if S.neg _ = true then -_ else _) = S.abs _ from rfl, S.abs_sq, eq_div_iff hden]
      linear_combination (ellNum P r) * hi
    · exact S.abs_nonneg _
    · rw [sub_left_inj, eq_div_iff hden]
      linear_combination (-(r - 1) * (-1 - 2 * P.d) ^ 2) * hi

theorem ElligatorTo.unique {r0 x y x' y' : K} (h : ElligatorTo P S ζ r0 x y) (h' : ElligatorTo P S ζ r0 x' y') :
    x' = x ∧ y' = y := by
  obtain ⟨s, t, hc, hx, hy⟩ := h
  obtain ⟨s', t', hc', hx', hy'⟩ := h'
  have hs : s' = s ∧ t' = t := by
    rcases hc with ⟨hq, h2, hn, ht⟩ | ⟨hq, h2, hn, ht⟩ <;> rcases hc' with ⟨hq', h2', hn', ht'⟩ | ⟨hq', h2', hn', ht'⟩
    · exact ⟨S.eq_of_sq_eq_of_neg_eq (h2'.trans h2.symm) (hn'.trans hn.symm), ht'.trans ht.symm⟩
    · exact absurd hq hq'
    · exact absurd hq' hq
    · have := S.eq_of_sq_eq_of_neg_eq (by rw [neg_sq, neg_sq]; exact h2'.trans h2.symm) (hn'.trans hn.symm)
      exact ⟨neg_inj.mp this, ht'.trans ht.symm⟩
  rw [hx, hy, hx', hy', hs.1, hs.2]; exact ⟨rfl, rfl⟩

end Decaf
