/-
The group order, elementary (DESIGN.md §5.7): E(Fq) is finite with at most 2q points (x and the sign of y determine a
point); it has a point of order 4 and — given any point G₀ with r•G₀ ∈ {O,T2}, G₀ ∉ {O,T2} — a point of order r, so
4r ∣ |E| ≤ 2q < 12r and |E| ∈ {4r, 8r}.  Since E has no point of order 8 (Spec/Torsion), 4r kills E in either case, and
r maps every even point into {O, T2}: r times any decaf377 group element is the identity element.
No point counting (Schoof, Hasse) is used.
-/
import Decaf.Spec.Torsion
import Decaf.Lemmas.ModelEncoding
import Mathlib.GroupTheory.OrderOfElement

namespace Model
open Edwards Decaf

theorem point_key_injective : Function.Injective (fun p : E => (p.x, paritySign.neg p.y)) := by
  intro p p' h
  obtain ⟨hx, hs⟩ := Prod.mk.inj h
  -- the curve equation at equal x gives y² = y'², and y = -y' ≠ 0 would have the opposite sign
  have hy2 : p.y ^ 2 = p'.y ^ 2 := by
    have h1 := p.on
    have h2 := p'.on
    unfold OnCurve at h1 h2
    rw [← hx] at h2
    exact mul_right_cancel₀ (one_sub_ne_zero params p.x) (by linear_combination h1 - h2)
  exact Point.ext hx (paritySign.eq_of_sq_eq_of_neg_eq hy2 hs)

instance instNeZeroQ : NeZero q := ⟨Nat.pos_iff_ne_zero.mp q_pos⟩

noncomputable instance instFintypeE : Fintype E := Fintype.ofInjective (fun p : E => (p.x, paritySign.neg p.y)) point_key_injective

theorem card_E_le : Fintype.card E ≤ 2 * q := by
  have h := Fintype.card_le_of_injective _ point_key_injective
  have hc : Fintype.card (Fq × Bool) = q * 2 :=
    (Fintype.card_prod Fq Bool).trans (congrArg₂ (· * ·) (ZMod.card q) Fintype.card_bool)
  calc Fintype.card E ≤ Fintype.card (Fq × Bool) := h
    _ = q * 2 := hc
    _ = 2 * q := Nat.mul_comm _ _

theorem four_dvd_card_E : 4 ∣ Fintype.card E := by
  have hne : ¬ 2 ^ 1 • (Point.C4 : E) = 0 := by
    rw [pow_one, two_nsmul, Point.C4_add_C4]; exact Point.T2_ne_zero
  have h4 : 2 ^ (1 + 1) • (Point.C4 : E) = 0 := by
    rw [show (2 : ℕ) ^ (1 + 1) = 2 + 2 from rfl, add_nsmul, two_nsmul, Point.C4_add_C4, Point.T2_add_T2]
  have := addOrderOf_eq_prime_pow hne h4
  rw [show (2 : ℕ) ^ (1 + 1) = 4 from rfl] at this
  rw [← this]
  exact addOrderOf_dvd_card

theorem addOrderOf_double {G0 : E} (hr : Point.Coset 0 (r • G0)) (hne : ¬ Point.Coset 0 G0) :
    addOrderOf (G0 + G0) = r := by
  rw [Point.coset_iff_double, zero_add, ← nsmul_add] at hr
  rw [Point.coset_iff_double, zero_add] at hne
  exact ((Nat.dvd_prime prime_r).mp (addOrderOf_dvd_of_nsmul_eq_zero hr.symm)).resolve_left
    (fun h1 => hne (AddMonoid.addOrderOf_eq_one_iff.mp h1).symm)

theorem r_dvd_card_E {G0 : E} (hr : Point.Coset 0 (r • G0)) (hne : ¬ Point.Coset 0 G0) : r ∣ Fintype.card E :=
  addOrderOf_double hr hne ▸ addOrderOf_dvd_card

/-- |E| is 4r or 8r: a multiple 4rk of 4r with 0 < 4rk ≤ 2q < 12r -/
theorem card_E_cases {G0 : E} (hr : Point.Coset 0 (r • G0)) (hne : ¬ Point.Coset 0 G0) :
    Fintype.card E = 4 * r ∨ Fintype.card E = 8 * r := by
  have hcop : Nat.Coprime 4 r := by
    rw [Nat.coprime_comm, Nat.Prime.coprime_iff_not_dvd prime_r, r_val]; norm_num
  obtain ⟨k, hk⟩ := hcop.mul_dvd_of_dvd_of_dvd four_dvd_card_E (r_dvd_card_E hr hne)
  have hle := card_E_le
  have hpos : 0 < Fintype.card E := Fintype.card_pos_iff.mpr ⟨0⟩
  rw [hk, r_val, q_val] at *
  obtain rfl | rfl : k = 1 ∨ k = 2 := by omega
  · left; ring
  · right; ring

theorem four_r_nsmul {G0 : E} (hr : Point.Coset 0 (r • G0)) (hne : ¬ Point.Coset 0 G0) (P : E) : (4 * r) • P = 0 := by
  rcases card_E_cases hr hne with h | h
  · rw [← h]; exact card_nsmul_eq_zero
  · have h8 : (8 * r) • P = 0 := by rw [← h]; exact card_nsmul_eq_zero
    rw [mul_nsmul'] at h8 ⊢
    exact Point.four_nsmul_eq_zero_of_eight one_add_d_nonsquare h8

theorem r_nsmul_even {G0 : E} (hr : Point.Coset 0 (r • G0)) (hne : ¬ Point.Coset 0 G0) {P : E} (he : Point.IsEven P) :
    Point.Coset 0 (r • P) := by
  have h4 : 4 • (r • P) = 0 := by rw [← mul_nsmul']; exact four_r_nsmul hr hne P
  have hev : Point.IsEven (r • P) := (Point.even params).nsmul_mem he r
  rcases Point.even_four_torsion one_add_d_nonsquare hev h4 with h | h
  · left; exact h
  · right; rw [h, zero_add]

end Model
