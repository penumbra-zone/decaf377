/-
Lemmas about the field wrappers' glue (Model/Glue.lean): chunked reduction of byte strings of any length,
checked parsing, canonical serialisation, limb ordering.
-/
import Mathlib.Data.Nat.Digits.Lemmas
import Decaf.Lemmas.Bytes
import Decaf.Model.Glue

namespace Model

theorem leBytes_eq_ofDigits (bs : List ℕ) : leBytes bs = Nat.ofDigits 256 bs := by
  rw [leBytes_eq_ofLimbs, ofLimbs_eq_ofDigits]; rfl

namespace FP
variable (F : FP)

theorem leBytes_padTo (n : ℕ) (bs : List ℕ) : leBytes (padTo n bs) = leBytes bs := by
  rw [padTo, leBytes_eq_ofDigits, Nat.ofDigits_append_replicate_zero, leBytes_eq_ofDigits]

theorem ofDigits_chunks (n : ℕ) (hn : 0 < n) : ∀ (fuel : ℕ) (bs : List ℕ), bs.length ≤ fuel →
    Nat.ofDigits (256 ^ n) ((chunks n fuel bs).map leBytes) = leBytes bs := by
  intro fuel
  induction fuel with
  | zero => intro bs h; rw [List.length_eq_zero_iff.mp (Nat.le_zero.mp h)]; rfl
  | succ fuel ih =>
    intro bs h
    rw [chunks]
    split
    · next he => rw [List.isEmpty_iff.mp he]; rfl
    · next he =>
      have hpos : 0 < bs.length := List.length_pos_iff.mpr (by simpa using he)
      rw [List.map_cons, Nat.ofDigits_cons, ih _ (by rw [List.length_drop]; omega)]
      conv_rhs => rw [← List.take_append_drop n bs, leBytes_append, List.length_take]
      rcases Nat.le_total n bs.length with hl | hl
      · rw [Nat.min_eq_left hl]
      · rw [List.drop_eq_nil_of_le hl]; simp [leBytes]

/-- the fold of `from_le_bytes_mod_order` is Horner's rule modulo `m` -/
theorem foldl_horner (m W : ℕ) (cs : List ℕ) :
    cs.reverse.foldl (fun acc x => fadd m (fmul m acc W) x) 0 = Nat.ofDigits W cs % m := by
  rw [List.foldl_reverse]
  induction cs with
  | nil => simp
  | cons c cs ih =>
    rw [List.foldr_cons, ih, Nat.ofDigits_cons, fadd, fmul, Nat.mod_mul_mod, Nat.mod_add_mod, Nat.add_comm, Nat.mul_comm]

theorem ofDigits_map_mod (b m : ℕ) (l : List ℕ) :
    Nat.ofDigits b (l.map (· % m)) % m = Nat.ofDigits b l % m := by
  induction l with
  | nil => rfl
  | cons c l ih =>
    rw [List.map_cons, Nat.ofDigits_cons, Nat.ofDigits_cons, Nat.add_mod, Nat.mod_mod, Nat.mul_mod, ih,
      ← Nat.mul_mod, ← Nat.add_mod]

theorem fromLeBytesModOrder_spec (hn : 0 < F.n8) (hf : F.fspt % F.m = 256 ^ F.n8 % F.m) (bs : List ℕ) :
    F.fromLeBytesModOrder bs = leBytes bs % F.m := by
  unfold fromLeBytesModOrder
  simp only [fromRawBytes, leBytes_padTo]
  rw [foldl_horner, Nat.ofDigits_modEq' _ _ _ hf, show (fun c => leBytes c % F.m) = (· % F.m) ∘ leBytes from rfl,
    ← List.map_map, ofDigits_map_mod, ofDigits_chunks F.n8 hn _ _ le_rfl]

theorem fromBeBytesModOrder_spec (hn : 0 < F.n8) (hf : F.fspt % F.m = 256 ^ F.n8 % F.m) (bs : List ℕ) :
    F.fromBeBytesModOrder bs = leBytes bs.reverse % F.m :=
  fromLeBytesModOrder_spec F hn hf _

theorem toBytesLe_spec (hm : F.m ≤ 256 ^ F.n8) (x : ℕ) (hx : x < F.m) :
    (F.toBytesLe x).length = F.n8 ∧ leBytes (F.toBytesLe x) = x ∧ ∀ b ∈ F.toBytesLe x, b < 256 :=
  ⟨toLeBytes_length _ _, leBytes_toLeBytes _ _ (lt_of_lt_of_le hx hm), toLeBytes_lt _ _⟩

theorem fromBytesChecked_iff (hm : F.m ≤ 256 ^ F.n8) (hm0 : 0 < F.m) (bs : List ℕ) (hl : bs.length = F.n8)
    (hb : ∀ b ∈ bs, b < 256) (v : ℕ) :
    F.fromBytesChecked bs = some v ↔ leBytes bs < F.m ∧ v = leBytes bs := by
  have hr := Nat.mod_lt (leBytes bs) hm0
  -- re-serialising the reduced value gives `bs` back exactly when nothing was reduced
  have key : F.toBytesLe (leBytes bs % F.m) = bs ↔ leBytes bs < F.m := by
    constructor
    · intro h; rw [← (toBytesLe_spec F hm _ hr).2.1, h] at hr; exact hr
    · intro h; rw [Nat.mod_eq_of_lt h, toBytesLe, ← hl, toLeBytes_leBytes bs hb]
  simp only [fromBytesChecked, fromRawBytes, beq_iff_eq, key]
  split
  · next h => simp [h, Nat.mod_eq_of_lt h, eq_comm]
  · next h => simp [h]

theorem fromBytesChecked_toBytesLe (hm : F.m ≤ 256 ^ F.n8) (hm0 : 0 < F.m) (x : ℕ) (hx : x < F.m) :
    F.fromBytesChecked (F.toBytesLe x) = some x := by
  obtain ⟨hl, hv, hb⟩ := toBytesLe_spec F hm x hx
  rw [fromBytesChecked_iff F hm hm0 _ hl hb, hv]
  exact ⟨hx, rfl⟩

theorem cmpLex_cons (a b : ℕ) (as bs : List ℕ) : cmpLex (a :: as) (b :: bs) = (compare a b).then (cmpLex as bs) := by
  rw [cmpLex, Nat.compare_eq_ite_lt]
  split_ifs <;> rfl

theorem cmpLex_append : ∀ (p q s t : List ℕ), p.length = q.length →
    cmpLex (p ++ s) (q ++ t) = (cmpLex p q).then (cmpLex s t)
  | [], [], _, _, _ => rfl
  | u :: us, v :: vs, s, t, h => by
    rw [List.cons_append, List.cons_append, cmpLex_cons, cmpLex_cons, cmpLex_append us vs s t (by simpa using h),
      Ordering.then_assoc]

theorem compare_add_mul {B x y : ℕ} (hx : x < B) (hy : y < B) (X Y : ℕ) :
    compare (x + B * X) (y + B * Y) = (compare X Y).then (compare x y) := by
  -- the high parts decide unless they are equal
  have key {x y X Y : ℕ} (hx : x < B) (h : X < Y) : x + B * X < y + B * Y :=
    calc x + B * X < B + B * X := Nat.add_lt_add_right hx _
      _ = B * (X + 1) := by rw [Nat.mul_succ, Nat.add_comm]
      _ ≤ B * Y := Nat.mul_le_mul_left B h
      _ ≤ y + B * Y := Nat.le_add_left ..
  rcases Nat.lt_trichotomy X Y with h | rfl | h
  · rw [Nat.compare_eq_lt.mpr h, Nat.compare_eq_lt.mpr (key hx h)]; rfl
  · simp only [Nat.compare_eq_ite_lt, Nat.add_lt_add_iff_right, lt_irrefl, if_false]; rfl
  · rw [Nat.compare_eq_gt.mpr h, Nat.compare_eq_gt.mpr (key hy h)]; rfl

theorem cmpLex_reverse (w : ℕ) : ∀ (a b : List ℕ), a.length = b.length → (∀ l ∈ a, l < 2 ^ w) → (∀ l ∈ b, l < 2 ^ w) →
    cmpLex a.reverse b.reverse = compare (Lit.ofLimbs w a) (Lit.ofLimbs w b)
  | [], [], _, _, _ => rfl
  | x :: xs, y :: ys, hl, ha, hb => by
    rw [List.forall_mem_cons] at ha hb
    rw [List.reverse_cons, List.reverse_cons, cmpLex_append _ _ _ _ (by simpa using hl),
      cmpLex_reverse w xs ys (by simpa using hl) ha.2 hb.2, cmpLex_cons, cmpLex, Ordering.then_eq, Lit.ofLimbs,
      Lit.ofLimbs, compare_add_mul ha.1 hb.1]

end FP
end Model
