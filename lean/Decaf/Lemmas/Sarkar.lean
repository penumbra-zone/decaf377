/-
The table-driven square-root-of-ratio routine of the arkworks backend (`ark_curve/invsqrt.rs`, Sarkar's algorithm
with windows 7+8·5 bits) meets the four-case contract for every input; in particular every table lookup hits
(the model's `sLookup` returns `none` exactly where the Rust `HashMap` index would panic).

`G = ζ^M` has order exactly 2^47 and the first phase leaves `x5 = (num/den)^M = G^e`.  The second phase builds
`t ≡ -e (mod 2^47)` from the low bits upwards, eight bits per lookup.  While `2^k ∣ e + t`, the product
`alpha = x5^(2^(39-k)) · ∏ gtab (digits of t) = G^((e+t)·2^(39-k))` is a power of `G^(2^39)`, hence a key of the table,
and the value found, shifted by `k`, makes `e + t` divisible by `2^(k+8)`.  The five stages are instances of one
lemma (`sark_stage`).  At the end `G^(t/2)`, times `ζ^((1-M)/2)` when `e` is odd, completes the root, and the flag is the
parity of `e`.
-/
import Mathlib.RingTheory.RootsOfUnity.PrimitiveRoots
import Mathlib.GroupTheory.OrderOfElement
import Decaf.Lemmas.ModelEncoding

namespace Model
open Edwards Decaf

theorem sarkN_eq : sarkN = 47 := by decide +kernel
theorem sarkW_eq : sarkW = 8 := by decide +kernel
theorem sarkM_mul : sarkM * 2 ^ 47 = q - 1 := by decide +kernel
theorem sarkM_odd : 2 * sarkMm1d2 + 1 = sarkM := by decide +kernel
theorem sarkG_pow : powMod sarkG (2 ^ 46) q = q - 1 := by decide +kernel
theorem zetaToOneMinusMDiv2_mul : fmul q zetaToOneMinusMDiv2 (powMod ZETA sarkMm1d2 q) = 1 := by decide +kernel

-- otherwise the tactics below unfold `powMod` on 253-bit literals when they compare model terms, and run out of
-- recursion depth
attribute [local irreducible] powMod gtab sLookup

/-- the generator of the 2-Sylow subgroup used by the routine -/
def G : Fq := ((sarkG : ℕ) : Fq)

theorem G_eq_zeta_pow : G = ((ZETA : ℕ) : Fq) ^ sarkM := by
  unfold G sarkG; exact cast_powMod _ _ _

theorem G_pow_46 : G ^ (2 ^ 46) = -1 := pow_eq_neg_one_of_powMod q_pos sarkG_pow

theorem G_prim : IsPrimitiveRoot G (2 ^ 47) := by
  rw [IsPrimitiveRoot.iff_orderOf]
  apply orderOf_eq_prime_pow (p := 2) (n := 46)
  · rw [G_pow_46]; exact neg_one_ne_one q_gt_two
  · rw [pow_succ, pow_mul, G_pow_46, neg_one_sq]

theorem G_ne_zero : G ≠ 0 := G_prim.ne_zero (by norm_num)

theorem G_pow_eq_iff (a b : ℕ) : G ^ a = G ^ b ↔ a ≡ b [MOD 2 ^ 47] := by
  rw [G_prim.eq_orderOf]
  exact (G_prim.isOfFinOrder (by norm_num)).pow_eq_pow_iff_modEq

theorem isSquare_pow_odd_iff {F : Type*} [Field F] {x : F} (hx : x ≠ 0) (k : ℕ) : IsSquare (x ^ (2 * k + 1)) ↔ IsSquare x := by
  refine ⟨fun h => ?_, fun h => h.pow _⟩
  -- `x = x^(2k+1) / (x^k)²`
  have h' := h.div (IsSquare.sq (x ^ k))
  rwa [pow_succ, pow_mul', mul_div_cancel_left₀ _ (pow_ne_zero 2 (pow_ne_zero k hx))] at h'

/-- `G = ζ^M` with `M` odd and `ζ` a non-square -/
theorem G_pow_isSquare_iff (e : ℕ) : IsSquare (G ^ e) ↔ e % 2 = 0 := by
  obtain ⟨k, rfl | rfl⟩ := Nat.even_or_odd' e
  · exact iff_of_true ((even_two_mul k).isSquare_pow G) (by omega)
  · rw [isSquare_pow_odd_iff G_ne_zero, G_eq_zeta_pow, ← sarkM_odd, isSquare_pow_odd_iff zeta_ne_zero]
    exact iff_of_false zeta_nonsquare (by omega)

theorem cast_gtab (k i : ℕ) : ((gtab k i : ℕ) : Fq) = G ^ (i * 2 ^ k) := by
  unfold gtab G; exact cast_powMod _ _ _

theorem gtab_lt (k i : ℕ) : gtab k i < q := by unfold gtab; exact powMod_lt _ _ _ one_lt_q

theorem skey_lt (ν : ℕ) : skey ν < q := finv_lt one_lt_q _

theorem cast_skey (ν : ℕ) : ((skey ν : ℕ) : Fq) = (G ^ (ν * 2 ^ 39))⁻¹ := by
  rw [skey, cast_finv q_gt_two, cast_powMod, sarkN_eq, sarkW_eq]
  rfl

theorem sTableAux_eq : ∀ n, sTableAux n = (List.range n).map fun ν => (skey ν, ν)
  | 0 => rfl
  | n + 1 => by rw [sTableAux, sTableAux_eq n, List.range_succ, List.map_append, List.map_singleton]

/-- **every key of the form `G^(m·2^39)` is in the table**: the lookup returns the `d < 256` that makes `m + d` a multiple of
256.  No other entry has this key, so it does not matter which way the table is searched -/
theorem sLookup_spec {a : ℕ} (ha : a < q) (m : ℕ) (hm : (a : Fq) = G ^ (m * 2 ^ 39)) :
    ∃ d < 256, sLookup a = some d ∧ 256 ∣ m + d := by
  have hkey : ∀ ν, (skey ν == a) = true ↔ 256 ∣ m + ν := fun ν => by
    rw [beq_iff_cast (skey_lt ν) ha, cast_skey, hm, eq_comm, ← mul_eq_one_iff_eq_inv₀ (pow_ne_zero _ G_ne_zero), ← pow_add,
      ← add_mul, G_prim.pow_eq_one_iff_dvd, show (2 : ℕ) ^ 47 = 256 * 2 ^ 39 by norm_num, Nat.mul_dvd_mul_iff_right (by norm_num)]
  rw [sLookup, sTable, sTableAux_eq]
  cases h : List.find? (fun kv => kv.1 == a) ((List.range 256).map fun ν => (skey ν, ν)).reverse with
  | none =>
    obtain ⟨d, hd, hdm⟩ : ∃ d < 256, 256 ∣ m + d := ⟨(256 - m % 256) % 256, Nat.mod_lt _ (by norm_num), by omega⟩
    exact absurd ((hkey d).mpr hdm)
      (List.find?_eq_none.mp h (skey d, d) (List.mem_reverse.mpr (List.mem_map.mpr ⟨d, List.mem_range.mpr hd, rfl⟩)))
  | some kv =>
    obtain ⟨ν, hν, rfl⟩ := List.mem_map.mp (List.mem_reverse.mp (List.mem_of_find?_eq_some h))
    have hp := List.find?_some h
    exact ⟨ν, List.mem_range.mp hν, rfl, (hkey ν).mp hp⟩

/-- `x` times the table entries picked by the `n + 1` low base-256 digits of `t`, the lowest from table `c`:
the shape of every `alpha_i` (invsqrt.rs:117-151) and of the final product (156-163), multiplied up from the left as there -/
def gwin (x t c : ℕ) : ℕ → ℕ
  | 0 => fmul q x (gtab c (t % 256))
  | n + 1 => fmul q (gwin x t c n) (gtab (c + 8 * (n + 1)) (t / 2 ^ (8 * (n + 1)) % 256))

theorem gwin_lt (x t c n : ℕ) : gwin x t c n < q := by
  cases n <;> exact fmul_lt q_pos _ _

theorem cast_gwin (x t c : ℕ) : ∀ n, ((gwin x t c n : ℕ) : Fq) = (x : Fq) * G ^ (t % 2 ^ (8 * (n + 1)) * 2 ^ c)
  | 0 => by rw [gwin, cast_fmul, cast_gtab]; rfl
  | n + 1 => by
    -- the digits below `B = 2^(8(n+1))` and the next one: `t % (B·256) = t % B + B·(t / B % 256)`
    have hdig : t % 2 ^ (8 * (n + 1)) * 2 ^ c + t / 2 ^ (8 * (n + 1)) % 256 * 2 ^ (c + 8 * (n + 1)) =
        t % 2 ^ (8 * (n + 1 + 1)) * 2 ^ c := by
      rw [Nat.mul_succ 8 (n + 1), pow_add 2 _ 8, Nat.mod_mul, pow_add 2 c, show (2 : ℕ) ^ 8 = 256 from rfl]
      ring
    rw [gwin, cast_fmul, cast_gwin x t c n, cast_gtab, mul_assoc, ← pow_add, hdig]

/-- `ζ^((1-M)/2)`, squared, times `G = ζ^M` is `ζ` -/
theorem zetaToOneMinusMDiv2_sq_mul_G : (zetaToOneMinusMDiv2 : Fq) ^ 2 * G = (ZETA : Fq) := by
  have hZ : (zetaToOneMinusMDiv2 : Fq) * (ZETA : Fq) ^ sarkMm1d2 = 1 := by
    rw [← cast_powMod, ← cast_fmul, zetaToOneMinusMDiv2_mul, Nat.cast_one]
  -- over variables: `ring` on the casts of these constants leaves a term the kernel cannot check
  have key : ∀ z y w : Fq, z * y = 1 → z ^ 2 * (y ^ 2 * w) = w := fun z y w h => by
    linear_combination w * (z * y + 1) * h
  rw [G_eq_zeta_pow, ← sarkM_odd, pow_succ (ZETA : Fq), pow_mul']
  exact key _ _ _ hZ

/-- what every stage has to deliver: the flag is the parity of `e`, and the result squares to `uv²·G^{-e}`, times `ζ` when
`e` is odd -/
def SarkPost (uv e : ℕ) (r : Option (Bool × ℕ)) : Prop :=
  ∃ res : ℕ, r = some (e % 2 == 0, res) ∧ res < q ∧
    (res : Fq) ^ 2 * G ^ e = (uv : Fq) ^ 2 * (if e % 2 = 0 then 1 else (ZETA : Fq))

/-- one stage (`i = 1..5`, invsqrt.rs:116-153): `t < 2^(k+1)` has `n + 1` base-256 digits, `x = x5^(2^c)` with `k + c = 39`,
and `next` is the rest of the routine, which runs on a `t` that is right in `k + 8` bits -/
theorem sark_stage {P : Option (Bool × ℕ) → Prop} {x e t k c n : ℕ} (hkc : k + c = 39) (hkn : k + 1 = 8 * (n + 1))
    (hx : (x : Fq) = G ^ (e * 2 ^ c)) (hT : 2 ^ k ∣ e + t) (ht : t < 2 ^ (k + 1)) (next : ℕ → Option (Bool × ℕ))
    (hnext : ∀ t', 2 ^ (k + 8) ∣ e + t' → t' < 2 ^ (k + 9) → P (next t')) :
    P ((sLookup (gwin x t c n)).bind fun d => next (t + d * 2 ^ k)) := by
  obtain ⟨m, hm⟩ := hT
  -- the key is `G^((e+t)·2^c) = G^(m·2^39)`
  obtain ⟨d, hd, hL, j, hj⟩ := sLookup_spec (gwin_lt x t c n) m (by
    rw [cast_gwin, hx, ← hkn, Nat.mod_eq_of_lt ht, ← pow_add, ← add_mul, hm, mul_right_comm, ← pow_add, hkc, mul_comm])
  rw [hL, Option.bind_some]
  refine hnext _ ⟨j, by rw [← add_assoc, hm, pow_add, mul_assoc, show (2 : ℕ) ^ 8 = 256 from rfl, ← hj]; ring⟩ ?_
  have := Nat.mul_le_mul_right (2 ^ k) (Nat.le_of_lt_succ hd)
  rw [pow_succ] at ht
  rw [show k + 9 = k + 1 + 8 by ring, pow_add, pow_succ]
  omega

/-- the last block (invsqrt.rs:155-165): `t/2` is right in 47 bits, so `G^(t/2)` squares to `G^{-e}`, or to `G^{1-e}` when `e`
is odd, where the correction `ζ^((1-M)/2)` comes in -/
theorem sarkFin_spec (uv q0 T e : ℕ) (hT : 2 ^ 47 ∣ e + T) (hlt : T < 2 ^ 48) (hp : q0 % 2 = e % 2) :
    SarkPost uv e (some (sarkFin uv q0 T)) := by
  have hfin : sarkFin uv q0 T = (e % 2 == 0,
      gwin (fmul q uv (if (e % 2 == 0) = true then 1 else zetaToOneMinusMDiv2)) ((T + 1) / 2) 0 5) := by rw [← hp]; rfl
  have hhalf : (T + 1) / 2 * 2 = T + e % 2 := by omega
  have hGT : G ^ T * G ^ e = 1 := by rwa [← pow_add, G_prim.pow_eq_one_iff_dvd, Nat.add_comm]
  refine ⟨_, by rw [hfin], gwin_lt _ _ _ _, ?_⟩
  rw [cast_gwin, cast_fmul, Nat.mod_eq_of_lt (a := (T + 1) / 2) (by omega), pow_zero, mul_one, mul_pow, ← pow_mul, hhalf]
  rcases Nat.mod_two_eq_zero_or_one e with hev | hev
  · rw [hev, beq_self_eq_true, if_pos rfl, if_pos rfl, Nat.cast_one]
    linear_combination (uv : Fq) ^ 2 * hGT
  · rw [hev, if_neg (by decide), if_neg one_ne_zero, ← zetaToOneMinusMDiv2_sq_mul_G]
    linear_combination (uv : Fq) ^ 2 * (zetaToOneMinusMDiv2 : Fq) ^ 2 * G * hGT

theorem G_pow_step {x e c : ℕ} (w : ℕ) (hx : (x : Fq) = G ^ (e * 2 ^ c)) :
    ((powMod x (2 ^ w) q : ℕ) : Fq) = G ^ (e * 2 ^ (c + w)) := by
  rw [cast_powMod, hx, ← pow_mul, mul_assoc, ← pow_add]

theorem sarkTail_spec (uv x5 e : ℕ) (hx5e : (x5 : Fq) = G ^ e) : SarkPost uv e (sarkTail uv x5) := by
  have hx5 : (x5 : Fq) = G ^ (e * 2 ^ 0) := by rw [pow_zero, mul_one, hx5e]
  have hx4 := G_pow_step 8 hx5
  have hx3 := G_pow_step 8 hx4
  have hx2 := G_pow_step 8 hx3
  have hx1 := G_pow_step 8 hx2
  have hx0 := G_pow_step 7 hx1
  -- `i = 0`: the key is `x0 = G^(e·2^39)` itself
  obtain ⟨d, hd, hL, hT⟩ := sLookup_spec (powMod_lt _ _ _ one_lt_q) e hx0
  have hp : d % 2 = e % 2 := by omega
  unfold sarkTail
  simp only []
  rw [hL, Option.bind_some]
  -- `i = 1..5`: the model's `sarkS1 .. sarkS5` unfold to the shape of `sark_stage`, with `k = 8i - 1`, `c = 40 - 8i`
  refine sark_stage (k := 7) (c := 32) (n := 0) rfl rfl hx1 (by omega) hd (sarkS2 uv x5 _ _ _ d) fun t h h' => ?_
  refine sark_stage (k := 15) (c := 24) (n := 1) rfl rfl hx2 h h' (sarkS3 uv x5 _ _ d) fun t h h' => ?_
  refine sark_stage (k := 23) (c := 16) (n := 2) rfl rfl hx3 h h' (sarkS4 uv x5 _ d) fun t h h' => ?_
  refine sark_stage (k := 31) (c := 8) (n := 3) rfl rfl hx4 h h' (sarkS5 uv x5 d) fun t h h' => ?_
  refine sark_stage (k := 39) (c := 0) (n := 4) rfl rfl hx5 h h' (fun t => some (sarkFin uv d t)) fun t h h' => ?_
  exact sarkFin_spec uv d t e h h' hp

/-- the first phase (invsqrt.rs:88-97) over the field: `x5 = (num/den)^M` and `uv² = x5·num/den`, by Fermat, since the
exponents of `den` add up to `2^48·M = 2(q-1)` -/
theorem sark_phase1 (num den : Fq) (hd : den ≠ 0) (k a M : ℕ) (hM : M = 2 * k + 1) (ha : 2 * a + 2 = 2 ^ 48)
    (hq : M * 2 ^ 47 = q - 1) :
    let s := den ^ a
    let t := s ^ 2 * den
    let w := (num * t) ^ k * s
    let v := w * den
    let uv := w * num
    let x5 := uv * v
    x5 = (num / den) ^ M ∧ uv ^ 2 * den = x5 * num := by
  intro s t w v uv x5
  constructor
  · have h1 : x5 * den ^ M = num ^ M * den ^ ((2 * a + 2) * M) := by
      simp only [x5, uv, v, w, t, s, hM]
      ring
    have : (2 : ℕ) ^ 48 * M = 2 * (q - 1) := by rw [← hq]; ring
    rw [div_pow, eq_div_iff (pow_ne_zero M hd), h1, ha, this, pow_mul, ZMod.pow_card_sub_one_eq_one (pow_ne_zero 2 hd), mul_one]
  · simp only [x5, uv, v]; ring

attribute [local irreducible] sarkTail in
theorem sark_phase1_run {num den : ℕ} (hn0 : num ≠ 0) (hd0 : den ≠ 0) (hdq : (den : Fq) ≠ 0) :
    ∃ uv x5, sqrtRatioArk num den = sarkTail uv x5 ∧ (x5 : Fq) = ((num : Fq) / (den : Fq)) ^ sarkM ∧
      (uv : Fq) ^ 2 * (den : Fq) = (x5 : Fq) * (num : Fq) := by
  have ph := sark_phase1 (num : Fq) (den : Fq) hdq sarkMm1d2 (2 ^ 47 - 1) sarkM sarkM_odd.symm (by norm_num) sarkM_mul
  -- `uv` and `x5` are read off the body of `sqrtRatioArk` by the `rfl` below
  eapply Exists.intro; eapply Exists.intro
  refine ⟨?_, ?_, ?_⟩
  · unfold sqrtRatioArk
    simp only [beq_eq_false_iff_ne.mpr hn0, beq_eq_false_iff_ne.mpr hd0, Bool.false_eq_true, if_false]
    rfl
  all_goals simp only [cast_fmul, cast_powMod, cast_fsq, sarkN_eq]
  exacts [ph.1, ph.2]

theorem sarkar_main (num den : ℕ) (hn : num < q) (hd : den < q) (hn0 : num ≠ 0) (hd0 : den ≠ 0) :
    ∃ (f : Bool) (y : ℕ), sqrtRatioArk num den = some (f, y) ∧ y < q ∧
      (f = true ↔ IsSquare ((num : Fq) / (den : Fq))) ∧
      (y : Fq) ^ 2 * (den : Fq) = if f then (num : Fq) else (ZETA : Fq) * (num : Fq) := by
  have hnq : (num : Fq) ≠ 0 := by rwa [Ne, cast_eq_zero_iff hn]
  have hdq : (den : Fq) ≠ 0 := by rwa [Ne, cast_eq_zero_iff hd]
  have hρ0 := div_ne_zero hnq hdq
  obtain ⟨uv, x5, hrun, hx5, huv⟩ := sark_phase1_run hn0 hd0 hdq
  -- `x5 = ρ^M` lies in the subgroup generated by `G`, of order `2^47 = (q-1)/M`
  obtain ⟨e, -, he⟩ := G_prim.eq_pow_of_pow_eq_one (ξ := (x5 : Fq))
    (by rw [hx5, ← pow_mul, sarkM_mul, ZMod.pow_card_sub_one_eq_one hρ0])
  obtain ⟨res, hres, hlt, hsq⟩ := sarkTail_spec uv x5 e he.symm
  refine ⟨(e % 2 == 0), res, by rw [hrun, hres], hlt, ?_, mul_right_cancel₀ (pow_ne_zero e G_ne_zero) ?_⟩
  · -- the flag: `ρ^M = G^e`, `M` odd, and `G^e` is a square iff `e` is even
    rw [beq_iff_eq, ← G_pow_isSquare_iff, he, hx5, ← sarkM_odd, isSquare_pow_odd_iff hρ0]
  · -- the value: res²·den·G^e = uv²·den·c = x5·num·c = G^e·num·c, with c = 1 or ζ
    have h1 : (res : Fq) ^ 2 * (den : Fq) * G ^ e = G ^ e * (num : Fq) * (if e % 2 = 0 then 1 else (ZETA : Fq)) := by
      rw [← he] at huv
      linear_combination (den : Fq) * hsq + (if e % 2 = 0 then 1 else (ZETA : Fq)) * huv
    rw [h1]
    simp only [beq_iff_eq]
    split <;> ring

/-- **the arkworks routine meets the square-root contract** — in particular none of its six `HashMap` indexings can
miss (`total`: the result is never `none`, the model's rendering of the panic) -/
theorem sarkar_contract : SRContract sqrtRatioArk :=
  .of_main (fun _ => rfl) (fun n hn => by unfold sqrtRatioArk; simp [hn]) sarkar_main

end Model
