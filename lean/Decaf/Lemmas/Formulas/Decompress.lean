/-
`Gen.Formulas.{ark,min}_decompress`: `Encoding::vartime_decompress` of src/ark_curve/encoding.rs and src/min_curve/element.rs.
-/
import Decaf.Lemmas.Formulas.Tactic

namespace Formulas
open Model

theorem ark_decompress_eq (sr : SR) (bytes : List ℕ) : Gen.Formulas.ark_decompress sr bytes = decode32 sr bytes := by
  unfold Gen.Formulas.ark_decompress decode32 decodeField
  -- The parse has no arithmetic in it and is split first: the one step of `formula_text` is for the square-root call, and the
  -- polynomial path would split the parse only after a first normal form and take a second after it (the `match`es of the two sides
  -- are different auxiliary definitions, which `with_reducible rfl` keeps shut).
  generalize fqFromBytesChecked bytes = o
  rcases o with _ | s <;> formula_eq sr

theorem min_decompress_eq (sr : SR) (bytes : List ℕ) : Gen.Formulas.min_decompress sr bytes = decode32 sr bytes := by
  unfold Gen.Formulas.min_decompress decode32 decodeField
  generalize fqFromBytesChecked bytes = o
  rcases o with _ | s <;> formula_eq sr

end Formulas

namespace Code
open Model

def arkDecode (sr : SR) (bytes : List ℕ) : Except DecErr Ext := Gen.Formulas.ark_decompress sr bytes

theorem arkDecode_eq : @arkDecode = decode32 := by
  funext sr b; exact Formulas.ark_decompress_eq sr b

def minDecode (sr : SR) (bytes : List ℕ) : Except DecErr Ext := Gen.Formulas.min_decompress sr bytes

theorem minDecode_eq : @minDecode = decode32 := by
  funext sr b; exact Formulas.min_decompress_eq sr b

end Code
