/-
Wrapper functions of the prime fields (src/fields/{fq,fr,fp}.rs), regenerated on every run by translator/extract_formulas.py
(`Fq::power`) and translator/extract_fieldfns.py (`from_bytes_checked`, `from_le_bytes_mod_order`, `to_bytes` of the three
fields), equal the field model `FP` of Model/Glue.lean on which the C10 / C11 theorems stand.
-/
import Decaf.Lemmas.Formulas.Ladder
import Decaf.Model.Exec
import Decaf.Generated.FieldFns

namespace Formulas
open Model

/-! ### `Fq::power` (src/fields/fq.rs, shared by both backends): the same loop shape, tied to `FP.power` of the field model -/

theorem fq_power_eq (x : ℕ) (limbs : List ℕ) : Gen.Formulas.fq_power x limbs = Exec.fqP.power x limbs := by
  unfold Gen.Formulas.fq_power FP.power
  rw [show 1 % Exec.fqP.m = 1 from Nat.mod_eq_of_lt prime_q.one_lt]
  exact limbs_loop_eq (powLeLimbsAux' q) (fun _ _ => rfl) (fun _ _ _ _ => rfl) _ (hg := fun _ _ _ _ => rfl) limbs 1 x

end Formulas

namespace Code
open Model
def fqPower (x : ℕ) (limbs : List ℕ) : ℕ := Gen.Formulas.fq_power x limbs
theorem fqPower_eq : @fqPower = Exec.fqP.power := by funext x l; exact Formulas.fq_power_eq x l
end Code

/-! ### byte-level wrappers of the three fields: each body is the field model's definition unfolded; only the checked parse has
a conditional, which a rewrite may spell either way round -/
namespace Formulas.FieldFns
open Model Model.FP Gen.FieldFns

theorem fq_from_bytes_checked_eq (F : FP) (bs : List ℕ) : fq_from_bytes_checked F bs = F.fromBytesChecked bs := by
  cases h : F.toBytesLe (F.fromRawBytes bs) == bs <;> simp [fq_from_bytes_checked, FP.fromBytesChecked, bne, h]
theorem fr_from_bytes_checked_eq (F : FP) (bs : List ℕ) : fr_from_bytes_checked F bs = F.fromBytesChecked bs := by
  cases h : F.toBytesLe (F.fromRawBytes bs) == bs <;> simp [fr_from_bytes_checked, FP.fromBytesChecked, bne, h]
theorem fp_from_bytes_checked_eq (F : FP) (bs : List ℕ) : fp_from_bytes_checked F bs = F.fromBytesChecked bs := by
  cases h : F.toBytesLe (F.fromRawBytes bs) == bs <;> simp [fp_from_bytes_checked, FP.fromBytesChecked, bne, h]

theorem fq_from_le_bytes_mod_order_eq (F : FP) (bs : List ℕ) : fq_from_le_bytes_mod_order F bs = F.fromLeBytesModOrder bs := rfl
theorem fr_from_le_bytes_mod_order_eq (F : FP) (bs : List ℕ) : fr_from_le_bytes_mod_order F bs = F.fromLeBytesModOrder bs := rfl
theorem fp_from_le_bytes_mod_order_eq (F : FP) (bs : List ℕ) : fp_from_le_bytes_mod_order F bs = F.fromLeBytesModOrder bs := rfl

theorem fq_to_bytes_eq (F : FP) (x : ℕ) : fq_to_bytes F x = F.toBytesLe x := rfl
theorem fr_to_bytes_eq (F : FP) (x : ℕ) : fr_to_bytes F x = F.toBytesLe x := rfl
theorem fp_to_bytes_eq (F : FP) (x : ℕ) : fp_to_bytes F x = F.toBytesLe x := rfl

end Formulas.FieldFns

namespace Code
open Model
def fqFromBytesChecked (bs : List ℕ) : Option ℕ := Gen.FieldFns.fq_from_bytes_checked Exec.fqP bs
def frFromBytesChecked (bs : List ℕ) : Option ℕ := Gen.FieldFns.fr_from_bytes_checked Exec.frP bs
def fpFromBytesChecked (bs : List ℕ) : Option ℕ := Gen.FieldFns.fp_from_bytes_checked Exec.fpP bs
def fqFromLeBytesModOrder (bs : List ℕ) : ℕ := Gen.FieldFns.fq_from_le_bytes_mod_order Exec.fqP bs
def frFromLeBytesModOrder (bs : List ℕ) : ℕ := Gen.FieldFns.fr_from_le_bytes_mod_order Exec.frP bs
def fpFromLeBytesModOrder (bs : List ℕ) : ℕ := Gen.FieldFns.fp_from_le_bytes_mod_order Exec.fpP bs
def fqToBytes (x : ℕ) : List ℕ := Gen.FieldFns.fq_to_bytes Exec.fqP x
def frToBytes (x : ℕ) : List ℕ := Gen.FieldFns.fr_to_bytes Exec.frP x
def fpToBytes (x : ℕ) : List ℕ := Gen.FieldFns.fp_to_bytes Exec.fpP x
end Code
