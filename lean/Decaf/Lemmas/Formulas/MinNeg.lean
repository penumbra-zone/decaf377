/-
`Gen.Formulas.min_neg`: `impl Neg for Element` of src/min_curve/element.rs.
-/
import Decaf.Lemmas.Formulas.Tactic

namespace Formulas
open Model

set_option linter.unusedVariables false in
theorem min_neg_eq (sr : SR) (p : Ext) : Gen.Formulas.min_neg p.X p.Y p.Z p.T = p.neg := by
  unfold Gen.Formulas.min_neg Ext.neg
  formula_eq sr

end Formulas

namespace Code
open Model

def minNeg (p : Ext) : Ext := Gen.Formulas.min_neg p.X p.Y p.Z p.T

theorem minNeg_eq : @minNeg = Ext.neg := by
  funext p; exact Formulas.min_neg_eq (fun _ _ => none) p

end Code
