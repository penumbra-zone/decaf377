/-
The R1CS gadget bodies of src/ark_curve/r1cs/{inner,fqvar_ext}.rs, regenerated into Lean on every run
(translator/extract_formulas.py, class GSym: an `FqVar`/`Boolean` is its value, the emitted constraints accumulate in
program order, the prover's choice of witnesses is the hint parameter), equal the hand-written relational model
Model/R1cs.lean for all inputs and all hints.
-/
import Decaf.Lemmas.Formulas.Tactic

namespace Formulas
open Model

/-- the Boolean algebra left once a flag has a value -/
macro "gadget_bools" : tactic => `(tactic|
  simp only [Bool.false_eq_true, Bool.true_eq_false, ↓reduceIte, Bool.not_true, Bool.not_false, beq_true, beq_false,
    Bool.not_eq_true', Bool.not_eq_false', beq_iff_eq, bne_iff_ne, ne_eq, Bool.not_eq_true, Bool.not_eq_false, Bool.not_not,
    Bool.true_and, Bool.and_true, Bool.false_and, Bool.and_false, Bool.true_or, Bool.or_true, Bool.false_or, Bool.or_false,
    Bool.bne_false, Bool.bne_true, Bool.false_bne, Bool.true_bne, Bool.not_bne])

/-- one step for gadget bodies: the in-circuit `isqrt` result is split for both sides at once -/
macro "gadget_step" : tactic => `(tactic| first
  | with_reducible rfl
  | (generalize R1cs.isqrt _ _ = o; rcases o with ⟨_ | _, _ | _, v⟩ <;> gadget_bools)
  | split_ifs)

/-- `formula_eq` for gadget bodies: the model's text up to the names of constants (`formula_text`), or else equal polynomials.
For the latter: a gadget body calls the in-circuit `isqrt` once and uses its three results in everything after.  Left in place, the call
(with its argument, a polynomial of degree 6 in the input) is an atom of every later polynomial, and a large one: the normal
form of `r1cs_elligator` then costs three times what it costs over a variable.  So the call goes first: the two sides'
arguments are normalised where they stand alone (in `hL`, `hR`) and found equal, the one result is taken apart, and only if
the normal form does not close the goal are its two flags split.  Where this does not apply (no call, a second call), the
steps of `formula_loop` do the same work on the whole goal. -/
macro "gadget_eq" : tactic => `(tactic| (
  formula_consts
  first
  | formula_text gadget_step
  | (formula_push
     try (generalize hL : R1cs.isqrt _ _ = o
          generalize hR : R1cs.isqrt _ _ = o'
          (try ring_nf at hL); (try ring_nf at hR)
          rw [hL] at hR; subst hR; clear hL
          rcases o with ⟨sat, f, v⟩
          simp only []
          first | (formula_norm; done) | (cases sat <;> cases f <;> gadget_bools))
     formula_loop gadget_step)))

theorem r1cs_compress_eq (x y : ℕ) (h : R1cs.Hint) : Gen.Formulas.r1cs_compress x y h = R1cs.compress x y h := by
  unfold Gen.Formulas.r1cs_compress R1cs.compress
  gadget_eq

theorem r1cs_decompress_eq (s : ℕ) (h : R1cs.Hint) : Gen.Formulas.r1cs_decompress s h = R1cs.decompress s h := by
  unfold Gen.Formulas.r1cs_decompress R1cs.decompress
  gadget_eq

theorem r1cs_elligator_eq (r0 : ℕ) (h : R1cs.Hint) : Gen.Formulas.r1cs_elligator r0 h = R1cs.elligator r0 h := by
  unfold Gen.Formulas.r1cs_elligator R1cs.elligator
  gadget_eq

theorem r1cs_is_eq_eq (x1 y1 x2 y2 : ℕ) : Gen.Formulas.r1cs_is_eq x1 y1 x2 y2 = R1cs.isEq (x1, y1) (x2, y2) := by
  unfold Gen.Formulas.r1cs_is_eq R1cs.isEq
  gadget_eq

theorem r1cs_isqrt_eq (x : ℕ) (h : R1cs.Hint) : Gen.Formulas.r1cs_isqrt false x h = R1cs.isqrt x h := by
  first
  | (unfold Gen.Formulas.r1cs_isqrt; simp only [Bool.false_eq_true, ↓reduceIte]; done)   -- untranslated: the fallback
  | (unfold Gen.Formulas.r1cs_isqrt R1cs.isqrt
     simp only [Bool.false_eq_true, ↓reduceIte, ark_Z]
     generalize h.getD (R1cs.honest x) = o
     rcases o with ⟨f, y⟩
     cases f <;> cases hz : x == 0 <;> simp [hz, bne])    -- the flag and the zero test fixed, one Boolean expression

/-- the sign gadgets: parity of the canonical bit decomposition -/
theorem r1cs_is_nonnegative_eq (x : ℕ) : Gen.Formulas.r1cs_is_nonnegative x = !isNeg x := by
  unfold Gen.Formulas.r1cs_is_nonnegative isNeg
  cases h : (x % 2 == 1) <;> simp

theorem r1cs_is_negative_eq (x : ℕ) : Gen.Formulas.r1cs_is_negative x = isNeg x := by
  unfold Gen.Formulas.r1cs_is_negative isNeg
  cases h : (x % 2 == 1) <;> simp_all

theorem r1cs_abs_eq (x : ℕ) : Gen.Formulas.r1cs_abs x = fabs x := by
  unfold Gen.Formulas.r1cs_abs fabs isNeg
  cases h : (x % 2 == 1) <;> simp_all

/-- witness allocation (`AllocVar<Element>`, the `AllocationMode::Witness` arm): curve equation of the offered coordinates,
in-circuit decoding of the natively computed encoding, equality of the decoded variable with the offered point.  The
natively computed encoding is generalised first, so that the kernel never meets the square-root routine. -/
theorem r1cs_alloc_witness_eq (px py : ℕ) (h : R1cs.Hint) :
    Gen.Formulas.r1cs_alloc_witness px py h = R1cs.allocWitness px py h := by
  first
  | (unfold Gen.Formulas.r1cs_alloc_witness; with_reducible rfl)            -- untranslated: the fallback
  | (unfold Gen.Formulas.r1cs_alloc_witness R1cs.allocWitness
     generalize ((Ext.ofAffine (px, py)).encodeField sqrtRatioArk).getD 0 = fe
     simp only [r1cs_decompress_eq, r1cs_is_eq_eq, R1cs.isEq]
     try (generalize R1cs.decompress fe h = o; rcases o with ⟨sat, x, y⟩; with_reducible rfl))

/-- on a constant: no constraint, the pair of constants computed out of circuit (defect repaired by 05db65d) -/
theorem r1cs_isqrt_const (x : ℕ) (h : R1cs.Hint) :
    Gen.Formulas.r1cs_isqrt true x h = (true, h.getD (R1cs.honest x)) := by
  unfold Gen.Formulas.r1cs_isqrt
  simp only [↓reduceIte]

end Formulas

namespace Code
open Model

def r1csCompress (x y : ℕ) (h : R1cs.Hint) : Bool × ℕ := Gen.Formulas.r1cs_compress x y h
def r1csDecompress (s : ℕ) (h : R1cs.Hint) : Bool × ℕ × ℕ := Gen.Formulas.r1cs_decompress s h
def r1csElligator (r0 : ℕ) (h : R1cs.Hint) : Bool × ℕ × ℕ := Gen.Formulas.r1cs_elligator r0 h
def r1csIsEq (a b : ℕ × ℕ) : Bool := Gen.Formulas.r1cs_is_eq a.1 a.2 b.1 b.2
def r1csIsqrt (x : ℕ) (h : R1cs.Hint) : Bool × Bool × ℕ := Gen.Formulas.r1cs_isqrt false x h
def r1csIsqrtConst (x : ℕ) : Bool × Bool × ℕ := Gen.Formulas.r1cs_isqrt true x none
def r1csAllocWitness (px py : ℕ) (h : R1cs.Hint) : Bool × ℕ × ℕ := Gen.Formulas.r1cs_alloc_witness px py h

theorem r1csCompress_eq : @r1csCompress = R1cs.compress := by funext x y h; exact Formulas.r1cs_compress_eq x y h
theorem r1csDecompress_eq : @r1csDecompress = R1cs.decompress := by funext s h; exact Formulas.r1cs_decompress_eq s h
theorem r1csElligator_eq : @r1csElligator = R1cs.elligator := by funext r h; exact Formulas.r1cs_elligator_eq r h
theorem r1csIsEq_eq : @r1csIsEq = R1cs.isEq := by funext a b; exact Formulas.r1cs_is_eq_eq a.1 a.2 b.1 b.2
theorem r1csIsqrt_eq : @r1csIsqrt = R1cs.isqrt := by funext x h; exact Formulas.r1cs_isqrt_eq x h
theorem r1csAllocWitness_eq : @r1csAllocWitness = R1cs.allocWitness := by
  funext px py h; exact Formulas.r1cs_alloc_witness_eq px py h
theorem r1csIsqrtConst_eq (x : ℕ) : r1csIsqrtConst x = (true, R1cs.honest x) := by
  unfold r1csIsqrtConst; rw [Formulas.r1cs_isqrt_const]; rfl

end Code
