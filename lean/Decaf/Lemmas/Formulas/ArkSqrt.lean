/-
`Gen.Formulas.ark_sqrt_ratio_zeta` — the straight-line main routine of the table-driven `Fq::sqrt_ratio_zeta`
(src/ark_curve/invsqrt.rs), regenerated on every run — equals the hand-written `Model.sqrtRatioArk`, the function whose
four-case contract `C09.ark_contract` proves.  The tables enter by their contract with Model/Sqrt.lean (`gtab`,
`sLookup`; their construction loops in `SquareRootTables::new` are tied by the correspondence check, which hits every
row).  Only reducible-transparency tactics are used: a mismatch fails fast instead of sending the kernel into the tables.
Likewise `Gen.Formulas.min_sqrt_ratio_zeta` (src/min_curve/invsqrt.rs) and `Model.sqrtRatioMin`.
-/
import Decaf.Lemmas.Formulas.Ladder

namespace Formulas
open Model

theorem lit_N : Gen.Formulas.litNat Gen.ark_curve_constants.top.N = sarkN := rfl
theorem lit_M : Gen.Formulas.litNat Gen.ark_curve_constants.top.M_MINUS_ONE_DIV_TWO = sarkMm1d2 := rfl
theorem lit_Z1 : fqLit Gen.ark_curve_constants.top.ZETA_TO_ONE_MINUS_M_DIV_TWO = zetaToOneMinusMDiv2 := rfl

theorem ark_sqrt_ratio_zeta_eq (num den : ℕ) : Gen.Formulas.ark_sqrt_ratio_zeta num den = sqrtRatioArk num den := by
  first
  | (unfold Gen.Formulas.ark_sqrt_ratio_zeta; with_reducible rfl)      -- untranslated: the fallback
  | (unfold Gen.Formulas.ark_sqrt_ratio_zeta sqrtRatioArk sarkTail sarkS1 sarkS2 sarkS3 sarkS4 sarkS5 sarkFin
     simp only [lit_N, lit_M, lit_Z1, ark_one, pow_one]                 -- syntactically the model after rewriting the constants
     all_goals with_reducible rfl)

/-- the top level of the minimal backend's routine (src/min_curve/invsqrt.rs `non_arkworks_sqrt_ratio_zeta`); its two loops
are translated as well (Ladder.lean: `min_pow_le_limbs_eq`, `min_our_sqrt_eq`), so the whole routine is tied by translation -/
theorem min_sqrt_ratio_zeta_eq (num den : ℕ) : Gen.Formulas.min_sqrt_ratio_zeta num den = sqrtRatioMin num den := by
  first
  | (unfold Gen.Formulas.min_sqrt_ratio_zeta; with_reducible rfl)      -- untranslated: the fallback
  | (unfold Gen.Formulas.min_sqrt_ratio_zeta sqrtRatioMin
     simp only [min_Z, min_pow_le_limbs_eq, min_our_sqrt_eq]
     all_goals with_reducible rfl)

end Formulas

namespace Code
open Model
def arkSqrtRatioZeta (num den : ℕ) : Option (Bool × ℕ) := Gen.Formulas.ark_sqrt_ratio_zeta num den
theorem arkSqrtRatioZeta_eq : @arkSqrtRatioZeta = sqrtRatioArk := by
  funext n d; exact Formulas.ark_sqrt_ratio_zeta_eq n d
def minSqrtRatioZeta (num den : ℕ) : Option (Bool × ℕ) := Gen.Formulas.min_sqrt_ratio_zeta num den
theorem minSqrtRatioZeta_eq : @minSqrtRatioZeta = sqrtRatioMin := by
  funext n d; exact Formulas.min_sqrt_ratio_zeta_eq n d
end Code
