/-
The loops of the minimal backend, translated on every run as a loop *skeleton* (recognised literally) around a translated
*body* (symbolically executed): the double-and-add ladder `Element::scalar_mul_both` (src/min_curve/element.rs:
`for limb in le_bits { for i in 0..64 { step } }` from `(IDENTITY, self)`; `+` and `.double()` are the translated addition
and doubling), and the two loops of its square-root routine (src/min_curve/invsqrt.rs), `pow_le_limbs` (the same skeleton
over field elements) and `our_sqrt` (a nested countdown).  Here: each body is the model's step, and the folds are the
model's recursions `Ext.scalarMulMin`, `powLeLimbs`, `ourSqrt` — so C05's and C09's theorems hold of the translated code.
-/
import Decaf.Lemmas.Formulas.MinAdd
import Decaf.Lemmas.Formulas.MinDouble

namespace Formulas
open Model

/-! ### bit-serial loops, generically: `for limb in limbs { for i in 0..64 { s = step ((limb >> i) & 1 == 1) s } }` -/
section generic
variable {σ : Type} (step : Bool → σ → σ)

def foldBits : List Bool → σ → σ
  | [], st => st
  | b :: bs, st => foldBits bs (step b st)

theorem foldBits_eq_foldl (bits : List Bool) (st : σ) : foldBits step bits st = bits.foldl (fun st b => step b st) st := by
  induction bits generalizing st with
  | nil => rfl
  | cons b bs ih => exact ih _

/-- `for i in 0..n` over the bits `(limb >> i) & 1` is the fold over `limbBits limb n` -/
theorem range_fold (n : ℕ) : ∀ (limb : ℕ) (st : σ),
    (List.range n).foldl (fun st i => step ((limb / 2 ^ i) % 2 == 1) st) st = foldBits step (limbBits limb n) st := by
  induction n with
  | zero => intro limb st; rfl
  | succ n ih =>
    intro limb st
    rw [List.range_succ_eq_map, List.foldl_cons, List.foldl_map, pow_zero, Nat.div_one]
    simp only [pow_succ', ← Nat.div_div_eq_div_mul]
    exact ih (limb / 2) _

theorem limbs_fold (limbs : List ℕ) : ∀ st : σ,
    limbs.foldl (fun st limb => (List.range 64).foldl (fun st i => step ((limb / 2 ^ i) % 2 == 1) st) st) st
      = foldBits step (limbsBits limbs) st := by
  intro st
  simp only [range_fold, foldBits_eq_foldl, limbsBits, List.foldl_flatMap]

end generic

section ladder
variable {α : Type} {op : α → α → α} {dbl : α → α}

def ladderStep (op : α → α → α) (dbl : α → α) (bit : Bool) (st : α × α) : α × α :=
  (if bit then op st.1 st.2 else st.1, dbl st.2)

variable (L : List Bool → α → α → α) (h0 : ∀ acc ins, L [] acc ins = acc)
  (hs : ∀ b bs acc ins, L (b :: bs) acc ins = L bs (if b then op acc ins else acc) (dbl ins))
include h0 hs

/-- every LSB-first ladder of the model (`Ext.ladderLsbAux`, `powLeLimbsAux`, `powLeLimbsAux'`: given by its two equations)
is the fold of `ladderStep` -/
theorem ladder_eq_fold (bits : List Bool) (acc ins : α) : L bits acc ins = (foldBits (ladderStep op dbl) bits (acc, ins)).1 := by
  induction bits generalizing acc ins with
  | nil => exact h0 acc ins
  | cons b bs ih => rw [hs, ih]; rfl

/-- … so a translated bit-serial loop whose body `g` is `ladderStep` on the bit it reads computes that ladder on the bits of the limbs -/
theorem limbs_loop_eq (g : ℕ → ℕ → α → α → α × α)
    (hg : ∀ limb i acc ins, g limb i acc ins = ladderStep op dbl ((limb / 2 ^ i) % 2 == 1) (acc, ins)) (limbs : List ℕ) (acc ins : α) :
    (limbs.foldl (fun st limb => (List.range 64).foldl (fun st i => g limb i st.1 st.2) st) (acc, ins)).1 = L (limbsBits limbs) acc ins := by
  rw [ladder_eq_fold L h0 hs]
  simp only [hg, Prod.mk.eta]
  rw [limbs_fold]

end ladder

/-! ### `Element::scalar_mul_both` -/

theorem addG_eq (a b : Ext) : Gen.Formulas.addG a b = a.addMin b := by
  unfold Gen.Formulas.addG; exact min_add_eq (fun _ _ => none) a b

theorem dblG_eq (a : Ext) : Gen.Formulas.dblG a = a.doubleMin := by
  unfold Gen.Formulas.dblG; exact min_double_eq (fun _ _ => none) a

theorem identity_lit : Gen.Formulas.extLit Gen.min_curve_element.Element.IDENTITY = Ext.identity := by decide +kernel

/-- the constant-time and the variable-time arm of the body are the same expression -/
theorem step_eq (CT : Bool) (limb i : ℕ) (acc ins : Ext) :
    Gen.Formulas.min_scalar_mul_step CT limb i acc ins = ladderStep Ext.addMin Ext.doubleMin ((limb / 2 ^ i) % 2 == 1) (acc, ins) := by
  simp only [Gen.Formulas.min_scalar_mul_step, ladderStep, addG_eq, dblG_eq, ite_self]

theorem min_scalar_mul_both_eq (CT : Bool) (p : Ext) (limbs : List ℕ) :
    Gen.Formulas.min_scalar_mul_both CT p limbs = p.scalarMulMin limbs := by
  unfold Gen.Formulas.min_scalar_mul_both Ext.scalarMulMin
  rw [identity_lit]
  exact limbs_loop_eq (Ext.ladderLsbAux _ _) (fun _ _ => rfl) (fun _ _ _ _ => rfl) _ (step_eq CT) limbs _ p

theorem min_scalar_mul_vartime_eq (p : Ext) (limbs : List ℕ) : Gen.Formulas.min_scalar_mul_vartime p limbs = p.scalarMulMin limbs := by
  unfold Gen.Formulas.min_scalar_mul_vartime; exact min_scalar_mul_both_eq _ p limbs

theorem min_scalar_mul_eq (p : Ext) (limbs : List ℕ) : Gen.Formulas.min_scalar_mul p limbs = p.scalarMulMin limbs := by
  unfold Gen.Formulas.min_scalar_mul; exact min_scalar_mul_both_eq _ p limbs

/-! ### `pow_le_limbs` -/

theorem min_pow_le_limbs_eq (x : ℕ) (limbs : List ℕ) : Gen.Formulas.min_pow_le_limbs x limbs = powLeLimbs q x limbs := by
  unfold Gen.Formulas.min_pow_le_limbs powLeLimbs
  rw [Nat.mod_eq_of_lt prime_q.one_lt]
  -- the translated body is `ladderStep` on multiplication and squaring, by definition
  exact limbs_loop_eq (powLeLimbsAux q) (fun _ _ => rfl) (fun _ _ _ _ => rfl) _ (hg := fun _ _ _ _ => rfl) limbs 1 x

/-! ### `our_sqrt` (constant-time Tonelli–Shanks): straight-line prefix, then
`for i in (2..=TWO_ADICITY).rev() { for _j in 1..=i-2 { b = b*b } … }` on the state (z, t, b, c) -/

theorem iter_fold (n b : ℕ) : (List.range n).foldl (fun b _ => Gen.Formulas.min_our_sqrt_inner b) b = iterSq q n b := by
  induction n generalizing b with
  | zero => rfl
  | succ n ih => rw [List.range_succ_eq_map, List.foldl_cons, List.foldl_map, ih]; rfl

theorem os_loop_eq (n : ℕ) (st : ℕ × ℕ × ℕ × ℕ) :
    ((List.range' 2 n).reverse.foldl (fun st i => Gen.Formulas.min_our_sqrt_step i st.1 st.2.1 st.2.2.1 st.2.2.2) st).1
      = ourSqrtLoop (n + 1) st.1 st.2.1 st.2.2.1 st.2.2.2 := by
  induction n generalizing st with
  | zero => rfl
  | succ n ih =>
    rw [List.range'_concat, List.reverse_append, List.reverse_singleton, List.singleton_append, List.foldl_cons,
      Nat.one_mul, Nat.add_comm 2 n, ih]
    -- the body at `i = n + 2`, which is what `ourSqrtLoop (n + 2)` unfolds to
    simp only [Gen.Formulas.min_our_sqrt_step, iter_fold, Nat.add_sub_cancel]
    rfl

theorem min_our_sqrt_eq (x : ℕ) : Gen.Formulas.min_our_sqrt x = ourSqrt x := by
  first
  | (unfold Gen.Formulas.min_our_sqrt; with_reducible rfl)          -- untranslated: the fallback
  | (unfold Gen.Formulas.min_our_sqrt ourSqrt QNR_TO_TRACE
     have hN : Gen.fields_fq.Fq.TWO_ADICITY.natVal = (Gen.Formulas.litNat Gen.fields_fq.Fq.TWO_ADICITY - 1) + 1 := by decide
     simp only [min_pow_le_limbs_eq]
     rw [hN]
     exact os_loop_eq _ _)

end Formulas

namespace Code
open Model
/-- the translated `Element::scalar_mul_vartime` / `Element::scalar_mul` of the minimal backend -/
def minScalarMulVartime (p : Ext) (limbs : List ℕ) : Ext := Gen.Formulas.min_scalar_mul_vartime p limbs
def minScalarMul (p : Ext) (limbs : List ℕ) : Ext := Gen.Formulas.min_scalar_mul p limbs
theorem minScalarMulVartime_eq : @minScalarMulVartime = Ext.scalarMulMin := by funext p l; exact Formulas.min_scalar_mul_vartime_eq p l
theorem minScalarMul_eq : @minScalarMul = Ext.scalarMulMin := by funext p l; exact Formulas.min_scalar_mul_eq p l
end Code
