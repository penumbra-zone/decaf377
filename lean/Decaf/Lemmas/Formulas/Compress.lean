/-
`Gen.Formulas.{ark,min}_compress`: `vartime_compress_to_field` of src/ark_curve/encoding.rs and src/min_curve/element.rs.
-/
import Decaf.Lemmas.Formulas.Tactic

namespace Formulas
open Model

theorem ark_compress_eq (sr : SR) (p : Ext) : Gen.Formulas.ark_compress sr p.X p.Y p.Z p.T = p.encodeField sr := by
  unfold Gen.Formulas.ark_compress Ext.encodeField
  formula_eq sr

theorem min_compress_eq (sr : SR) (p : Ext) : Gen.Formulas.min_compress sr p.X p.Y p.Z p.T = p.encodeField sr := by
  unfold Gen.Formulas.min_compress Ext.encodeField
  formula_eq sr

end Formulas

namespace Code
open Model

def arkEncodeField (sr : SR) (p : Ext) : Option ℕ := Gen.Formulas.ark_compress sr p.X p.Y p.Z p.T

theorem arkEncodeField_eq : @arkEncodeField = Ext.encodeField := by
  funext sr p; exact Formulas.ark_compress_eq sr p

def minEncodeField (sr : SR) (p : Ext) : Option ℕ := Gen.Formulas.min_compress sr p.X p.Y p.Z p.T

theorem minEncodeField_eq : @minEncodeField = Ext.encodeField := by
  funext sr p; exact Formulas.min_compress_eq sr p

end Code
