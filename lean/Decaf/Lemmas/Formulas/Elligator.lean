/-
`Gen.Formulas.{ark,min}_elligator`: `Element::elligator_map` of src/ark_curve/elligator.rs and src/min_curve/element.rs.
-/
import Decaf.Lemmas.Formulas.Tactic

namespace Formulas
open Model

theorem ark_elligator_eq (sr : SR) (r0 : ℕ) : Gen.Formulas.ark_elligator sr r0 = elligator sr ZETA r0 := by
  unfold Gen.Formulas.ark_elligator elligator
  formula_eq sr

theorem min_elligator_eq (sr : SR) (r0 : ℕ) : Gen.Formulas.min_elligator sr r0 = elligator sr ZETA_min r0 := by
  unfold Gen.Formulas.min_elligator elligator
  formula_eq sr

end Formulas

namespace Code
open Model

def arkElligator (sr : SR) (r0 : ℕ) : Option Ext := Gen.Formulas.ark_elligator sr r0

theorem arkElligator_eq : @arkElligator = fun sr r0 => elligator sr ZETA r0 := by
  funext sr r0; exact Formulas.ark_elligator_eq sr r0

def minElligator (sr : SR) (r0 : ℕ) : Option Ext := Gen.Formulas.min_elligator sr r0

theorem minElligator_eq : @minElligator = fun sr r0 => elligator sr ZETA_min r0 := by
  funext sr r0; exact Formulas.min_elligator_eq sr r0

end Code
