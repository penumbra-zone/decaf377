/-
`Gen.Formulas.min_double`: `Element::double` of src/min_curve/element.rs.
-/
import Decaf.Lemmas.Formulas.Tactic

namespace Formulas
open Model

set_option linter.unusedVariables false in
theorem min_double_eq (sr : SR) (p : Ext) : Gen.Formulas.min_double p.X p.Y p.Z p.T = p.doubleMin := by
  unfold Gen.Formulas.min_double Ext.doubleMin
  formula_eq sr

end Formulas

namespace Code
open Model

def minDouble (p : Ext) : Ext := Gen.Formulas.min_double p.X p.Y p.Z p.T

theorem minDouble_eq : @minDouble = Ext.doubleMin := by
  funext p; exact Formulas.min_double_eq (fun _ _ => none) p

end Code
