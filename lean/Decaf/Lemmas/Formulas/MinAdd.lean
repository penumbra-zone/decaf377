/-
`Gen.Formulas.min_add`: `impl Add for Element` of src/min_curve/element.rs.
-/
import Decaf.Lemmas.Formulas.Tactic

namespace Formulas
open Model

set_option linter.unusedVariables false in
theorem min_add_eq (sr : SR) (p1 p2 : Ext) : Gen.Formulas.min_add p1.X p1.Y p1.Z p1.T p2.X p2.Y p2.Z p2.T = p1.addMin p2 := by
  unfold Gen.Formulas.min_add Ext.addMin
  formula_eq sr

end Formulas

namespace Code
open Model

def minAdd (p1 p2 : Ext) : Ext := Gen.Formulas.min_add p1.X p1.Y p1.Z p1.T p2.X p2.Y p2.Z p2.T

theorem minAdd_eq : @minAdd = Ext.addMin := by
  funext p1 p2; exact Formulas.min_add_eq (fun _ _ => none) p1 p2

end Code
