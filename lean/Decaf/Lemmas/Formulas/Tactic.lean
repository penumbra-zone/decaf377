/-
Tie between the Rust formulas and the hand-written model, by translation + proof.

`Decaf/Generated/Formulas.lean` is regenerated from the Rust sources on every run (translator/extract_formulas.py):
one Lean definition per translated function body of the repository (group formulas, encode, decode, Elligator, equality
tests, both square-root routines and the ladders, in both backends; the R1CS gadget bodies), written over the model's field primitives.  The modules next to this one (each names the Rust function
its definitions come from) prove, for all inputs, that each generated definition equals the hand-written model function
the property theorems are about; `Code.*` there is the translated code under the model's calling convention, which the
theorems of Props/Translated/ are stated about.

The proof is one tactic, `formula_eq sr`.
* `formula_consts`: constants are rewritten to the model's names (`fqLit Gen.….COEFF_A = cA` …, kernel-evaluated; `1 + 1` is `2`).
* `formula_text`: the model was written from these sources, and for most bodies the translated text is now the model's text.  Only
  the `match` on the answer of the square-root routine keeps `rfl` from seeing it (the two sides' `match`es are different auxiliary
  definitions): the call is case-split for both sides at once (`formula_step`), and every branch is a syntactic identity.  Nothing
  is computed.
* Otherwise — where the Rust code associates, commutes, names or shares sub-expressions differently from the model or spells a constant
  differently, as `vartime_decompress` of the arkworks backend does, and any body may after a harmless rewrite — the two sides are
  compared as polynomials.  `formula_push`: every field primitive becomes `ZMod.val` of the corresponding `ZMod q` expression, so that
  each maximal arithmetic sub-term is a commutative-ring expression under one `val`.  `formula_loop`: `ring_nf` normalises all ring
  sub-terms (recursively inside the arguments of `fabs`, `isNeg`, the square-root routine `sr`, conditions), then the outermost
  `sr _ _` call / parse / `if` is case-split for both sides at once (`formula_step`); this is repeated until both sides are
  syntactically equal.
Either way it fails when the computed polynomial, a sign test or the control flow differs.
A body that is one equality test (`==` of two polynomials) is compared as a proposition instead (`formula_booleq`): the same
test may be spelt `x1*y2 == y1*x2` or `y2*x1 - y1*x2 == 0`.
Every `*_eq` theorem takes the routine `sr : SR`, also where the body never calls it: `formula_eq` is given the name to split on.

A body the translator cannot read is generated as the hand model itself (DESIGN.md §2.5); where a proof is not closed by the
tactics above in that case too, it starts with an alternative marked "untranslated: the fallback", which closes exactly that case.
-/
import Decaf.Lemmas.ModelCurve
import Decaf.Generated.Formulas
import Mathlib.Tactic.Ring.RingNF
import Mathlib.Tactic.SplitIfs

namespace Formulas
open Model

theorem fmul_val (a b : ℕ) : fmul q a b = ZMod.val ((a : ZMod q) * (b : ZMod q)) := by
  rw [← cast_fmul, ZMod.val_natCast_of_lt (fmul_lt q_pos _ _)]
theorem fadd_val (a b : ℕ) : fadd q a b = ZMod.val ((a : ZMod q) + (b : ZMod q)) := by
  rw [← cast_fadd, ZMod.val_natCast_of_lt (fadd_lt q_pos _ _)]
theorem fsub_val (a b : ℕ) : fsub q a b = ZMod.val ((a : ZMod q) - (b : ZMod q)) := by
  rw [← cast_fsub, ZMod.val_natCast_of_lt (fsub_lt q_pos _ _)]
theorem fneg_val (a : ℕ) : fneg q a = ZMod.val (-(a : ZMod q)) := by
  rw [← cast_fneg, ZMod.val_natCast_of_lt (fneg_lt q_pos _)]
theorem fsq_val (a : ℕ) : fsq q a = ZMod.val ((a : ZMod q) * (a : ZMod q)) := by
  rw [← sq, ← cast_fsq, ZMod.val_natCast_of_lt (fsq_lt q_pos _)]

theorem min_A : fqLit Gen.min_curve_constants.top.COEFF_A = cA := by decide +kernel
theorem min_D : fqLit Gen.min_curve_constants.top.COEFF_D = cD := by decide +kernel
theorem min_K : fqLit Gen.min_curve_constants.top.COEFF_K = cK := rfl
theorem min_Z : fqLit Gen.min_curve_constants.top.ZETA = ZETA_min := rfl
theorem ark_A : fqLit Gen.ark_curve_edwards.TECurveConfig_Decaf377EdwardsConfig.COEFF_A = cA := rfl
theorem ark_D : fqLit Gen.ark_curve_edwards.TECurveConfig_Decaf377EdwardsConfig.COEFF_D = cD := rfl
theorem ark_Z : fqLit Gen.ark_curve_constants.top.ZETA = ZETA := rfl
theorem ark_one : fqLit Gen.ark_curve_constants.top.ONE = 1 := by decide +kernel
theorem two_eq : fadd q 1 1 = 2 := by decide +kernel

/-- the numeric values of the curve coefficients, so that a formula specialised to a = -1, d = 3021 is recognised too -/
theorem cast_cA' : ((cA : ℕ) : ZMod q) = -1 := cast_cA
theorem cast_cD' : ((cD : ℕ) : ZMod q) = 3021 := by rw [cD_eq]; norm_num
theorem cast_cK' : ((cK : ℕ) : ZMod q) = 6042 := by rw [cK_eq]; norm_num

theorem val_beq_val (a b : ZMod q) : (a.val == b.val) = decide (a = b) := by
  rw [Bool.eq_iff_iff]; simp [ZMod.val_injective q |>.eq_iff]

theorem val_beq_zero (a : ZMod q) : (a.val == 0) = decide (a = 0) := by
  rw [Bool.eq_iff_iff]; simp [ZMod.val_eq_zero]

/-- a Boolean result that is an equality test in the field: both sides become `decide (P = 0)`-style propositions (which
settles it when the two tests are the same text), and the propositions are shown equivalent by a linear combination (so
`x1*y2 == y1*x2` and `y2*x1 - y1*x2 == 0` agree) -/
macro "formula_booleq" : tactic => `(tactic| (
  simp only [fmul_val, fadd_val, fsub_val, fneg_val, fsq_val, ZMod.natCast_zmod_val, Nat.cast_ofNat, Nat.cast_one,
    cast_cA', cast_cD', cast_cK', val_beq_val, val_beq_zero]
  all_goals
    rw [decide_eq_decide]
    constructor <;> intro h <;> first | linear_combination h | linear_combination -h))

/-- one step: close by syntactic equality, or split the outermost square-root call / parse / conditional -/
macro "formula_step" sr:ident : tactic => `(tactic| first
  | with_reducible rfl
  | (generalize $sr _ _ = o; rcases o with _ | ⟨_ | _, v⟩ <;>
      simp only [Bool.false_eq_true, Bool.true_eq_false, ↓reduceIte, Bool.not_true, Bool.not_false, beq_true, beq_false,
        Bool.not_eq_true', Bool.not_eq_false', beq_iff_eq, bne_iff_ne, ne_eq, Bool.not_eq_true, Bool.not_eq_false, Bool.not_not,
        Bool.true_and, Bool.and_true, Bool.false_and, Bool.and_false, Bool.true_or, Bool.or_true, Bool.false_or, Bool.or_false])
  | (generalize fqFromBytesChecked _ = o; rcases o with _ | s <;> simp only [])
  | split_ifs)

/-- constants by the model's names -/
macro "formula_consts" : tactic => `(tactic|
  try simp only [min_A, min_D, min_Z, ark_A, ark_D, ark_Z, ark_one, min_K, two_eq, R1cs.invG])

/-- the translated text is the model's text: one `step` (the split of both sides at once), and every branch is a syntactic identity.
One step only, so that where the texts differ this is given up after one comparison -/
macro "formula_text" step:tactic : tactic => `(tactic| (($step:tactic) <;> with_reducible rfl))

/-- every field primitive as `val` of the `ZMod q` expression -/
macro "formula_push" : tactic => `(tactic| (
  try simp only [fmul_val, fadd_val, fsub_val, fneg_val, fsq_val, ZMod.natCast_zmod_val, Nat.cast_ofNat, Nat.cast_one,
    cast_cA', cast_cD', cast_cK', Nat.reducePow, beq_true, beq_false, Bool.not_eq_true', Bool.not_eq_false', beq_iff_eq, bne_iff_ne, ne_eq,
    Bool.not_eq_true, Bool.not_eq_false, Bool.not_not]))

/-- the ring normal form of every arithmetic sub-term (a split leaves `↑(a.val)` behind: `a` again, first) -/
macro "formula_norm" : tactic => `(tactic| ((try simp only [ZMod.natCast_zmod_val]); try ring_nf))

/-- until both sides are syntactically equal: one normal form, then one split of both sides at once.  (The normal form is
the whole cost: it is taken once per round, and never of a goal that `rfl` closes.) -/
macro "formula_loop" step:tactic : tactic => `(tactic| repeat' (first
  | with_reducible rfl
  | (formula_norm; first | done | ($step:tactic))))

macro "formula_eq" sr:ident : tactic => `(tactic| (
  formula_consts
  first
  | formula_text (formula_step $sr)
  | (formula_push; formula_loop (formula_step $sr))))

end Formulas
