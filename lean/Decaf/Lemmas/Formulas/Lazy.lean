/-
The lazily evaluated variable: `LazyElementVar::element` / `::encoding` of src/ark_curve/r1cs/lazy.rs, regenerated on
every run by translator/extract_lazy.py (symbolic execution of both bodies in each of the three states of the `RefCell`),
are the hand model's `Lazy.step` — same new state, same gadget emitted, same satisfaction — and the value they return is
the corresponding component of the new state.
-/
import Decaf.Generated.Lazy

namespace Formulas
open Model

theorem lazy_element_eq (st : R1cs.Lazy) (h : R1cs.Hint) :
    Gen.Lazy.element st h =
      ((st.step .elem h).1, (st.step .elem h).2.1, (st.step .elem h).2.2, ((st.step .elem h).1.elemVal).getD (0, 0)) := by
  cases st <;> rfl

theorem lazy_encoding_eq (st : R1cs.Lazy) (h : R1cs.Hint) :
    Gen.Lazy.encoding st h =
      ((st.step .enc h).1, (st.step .enc h).2.1, (st.step .enc h).2.2, ((st.step .enc h).1.encVal).getD 0) := by
  cases st <;> rfl

end Formulas

namespace Code
open Model

/-- one forcing of the translated lazy variable: new state, gadget emitted, satisfied -/
def lazyStep (st : R1cs.Lazy) (f : R1cs.Force) (h : R1cs.Hint) : R1cs.Lazy × R1cs.Emitted × Bool :=
  match f with
  | .elem => let r := Gen.Lazy.element st h; (r.1, r.2.1, r.2.2.1)
  | .enc => let r := Gen.Lazy.encoding st h; (r.1, r.2.1, r.2.2.1)

theorem lazyStep_eq : @lazyStep = @R1cs.Lazy.step := by
  funext st f h
  cases f
  · simp only [lazyStep, Formulas.lazy_encoding_eq]
  · simp only [lazyStep, Formulas.lazy_element_eq]

theorem lazy_element_value (st : R1cs.Lazy) (h : R1cs.Hint) :
    (st.step .elem h).1.elemVal = some (Gen.Lazy.element st h).2.2.2 := by
  cases st <;> rfl

theorem lazy_encoding_value (st : R1cs.Lazy) (h : R1cs.Hint) :
    (st.step .enc h).1.encVal = some (Gen.Lazy.encoding st h).2.2.2 := by
  cases st <;> rfl

end Code
