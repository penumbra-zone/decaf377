/-
`Gen.Formulas.{min_eq, ark_eq, ark_affine_eq, min_is_identity, ark_is_identity}` are regenerated on every run from
src/min_curve/element.rs (`impl PartialEq for Element`, `is_identity`), src/ark_curve/element/projective.rs and
src/ark_curve/element/affine.rs.  Here: they equal the hand-written model (`Ext.eq`, `Ext.isIdentity`) for all inputs.
-/
import Decaf.Lemmas.Formulas.Tactic

namespace Formulas
open Model

set_option linter.unusedVariables false

theorem min_eq_eq (sr : SR) (p1 p2 : Ext) :
    Gen.Formulas.min_eq p1.X p1.Y p1.Z p1.T p2.X p2.Y p2.Z p2.T = p1.eq p2 := by
  unfold Gen.Formulas.min_eq Ext.eq
  formula_booleq

theorem ark_eq_eq (sr : SR) (p1 p2 : Ext) :
    Gen.Formulas.ark_eq p1.X p1.Y p1.Z p1.T p2.X p2.Y p2.Z p2.T = p1.eq p2 := by
  unfold Gen.Formulas.ark_eq Ext.eq
  formula_booleq

theorem ark_affine_eq_eq (sr : SR) (p1 p2 : Ext) :
    Gen.Formulas.ark_affine_eq p1.X p1.Y p1.Z p1.T p2.X p2.Y p2.Z p2.T = p1.eq p2 := by
  unfold Gen.Formulas.ark_affine_eq Ext.eq
  formula_booleq

theorem min_is_identity_eq (sr : SR) (p : Ext) : Gen.Formulas.min_is_identity p.X p.Y p.Z p.T = p.isIdentity := by
  unfold Gen.Formulas.min_is_identity Ext.isIdentity
  formula_eq sr

theorem ark_is_identity_eq (sr : SR) (p : Ext) : Gen.Formulas.ark_is_identity p.X p.Y p.Z p.T = p.isIdentity := by
  unfold Gen.Formulas.ark_is_identity Ext.isIdentity
  formula_eq sr

end Formulas

namespace Code
open Model

def minEq (p1 p2 : Ext) : Bool := Gen.Formulas.min_eq p1.X p1.Y p1.Z p1.T p2.X p2.Y p2.Z p2.T
def arkEq (p1 p2 : Ext) : Bool := Gen.Formulas.ark_eq p1.X p1.Y p1.Z p1.T p2.X p2.Y p2.Z p2.T
def arkAffineEq (p1 p2 : Ext) : Bool := Gen.Formulas.ark_affine_eq p1.X p1.Y p1.Z p1.T p2.X p2.Y p2.Z p2.T
def minIsIdentity (p : Ext) : Bool := Gen.Formulas.min_is_identity p.X p.Y p.Z p.T
def arkIsIdentity (p : Ext) : Bool := Gen.Formulas.ark_is_identity p.X p.Y p.Z p.T

theorem minEq_eq : @minEq = Ext.eq := by funext a b; exact Formulas.min_eq_eq (fun _ _ => none) a b
theorem arkEq_eq : @arkEq = Ext.eq := by funext a b; exact Formulas.ark_eq_eq (fun _ _ => none) a b
theorem arkAffineEq_eq : @arkAffineEq = Ext.eq := by funext a b; exact Formulas.ark_affine_eq_eq (fun _ _ => none) a b
theorem minIsIdentity_eq : @minIsIdentity = Ext.isIdentity := by funext a; exact Formulas.min_is_identity_eq (fun _ _ => none) a
theorem arkIsIdentity_eq : @arkIsIdentity = Ext.isIdentity := by funext a; exact Formulas.ark_is_identity_eq (fun _ _ => none) a

end Code
