/-
`Gen.Formulas.{min,ark}_hash_to_curve`, `{min,ark}_encode_to_curve` (bodies of `Element::hash_to_curve` /
`encode_to_curve` in the two backends, regenerated on every run; their calls of `elligator_map` and their `+` refer to
the translated Elligator map and to the translated minimal addition / arkworks' addition by contract) equal the model.
-/
import Decaf.Lemmas.Formulas.Elligator
import Decaf.Lemmas.Formulas.MinAdd

namespace Formulas
open Model

theorem min_hash_to_curve_eq (sr : SR) (r1 r2 : ℕ) :
    Gen.Formulas.min_hash_to_curve sr r1 r2 = hashToCurve sr ZETA_min Ext.addMin r1 r2 := by
  first
  | (unfold Gen.Formulas.min_hash_to_curve; with_reducible rfl)        -- untranslated: the fallback
  | (unfold Gen.Formulas.min_hash_to_curve hashToCurve
     simp only [min_elligator_eq, min_add_eq sr]
     cases elligator sr ZETA_min r1 <;> cases elligator sr ZETA_min r2 <;> rfl)

theorem ark_hash_to_curve_eq (sr : SR) (r1 r2 : ℕ) :
    Gen.Formulas.ark_hash_to_curve sr r1 r2 = hashToCurve sr ZETA Ext.addRef r1 r2 := by
  first
  | (unfold Gen.Formulas.ark_hash_to_curve; with_reducible rfl)        -- untranslated: the fallback
  | (unfold Gen.Formulas.ark_hash_to_curve hashToCurve
     simp only [ark_elligator_eq]
     cases elligator sr ZETA r1 <;> cases elligator sr ZETA r2 <;> rfl)

theorem min_encode_to_curve_eq (sr : SR) (r0 : ℕ) : Gen.Formulas.min_encode_to_curve sr r0 = elligator sr ZETA_min r0 := by
  unfold Gen.Formulas.min_encode_to_curve
  first
  | exact min_elligator_eq sr r0
  | rfl                                                               -- untranslated: the fallback

theorem ark_encode_to_curve_eq (sr : SR) (r0 : ℕ) : Gen.Formulas.ark_encode_to_curve sr r0 = elligator sr ZETA r0 := by
  unfold Gen.Formulas.ark_encode_to_curve
  first
  | exact ark_elligator_eq sr r0
  | rfl                                                               -- untranslated: the fallback

end Formulas

namespace Code
open Model

def minHashToCurve (sr : SR) (r1 r2 : ℕ) : Option Ext := Gen.Formulas.min_hash_to_curve sr r1 r2
def arkHashToCurve (sr : SR) (r1 r2 : ℕ) : Option Ext := Gen.Formulas.ark_hash_to_curve sr r1 r2

theorem minHashToCurve_eq : @minHashToCurve = fun sr r1 r2 => hashToCurve sr ZETA_min Ext.addMin r1 r2 := by
  funext sr r1 r2; exact Formulas.min_hash_to_curve_eq sr r1 r2
theorem arkHashToCurve_eq : @arkHashToCurve = fun sr r1 r2 => hashToCurve sr ZETA Ext.addRef r1 r2 := by
  funext sr r1 r2; exact Formulas.ark_hash_to_curve_eq sr r1 r2

end Code
