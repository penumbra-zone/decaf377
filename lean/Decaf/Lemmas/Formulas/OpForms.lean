/-
Every operator form of the crate (`impl Add/Sub/Neg/Mul/…Assign` for `Element`, `AffinePoint`, `Fr` and the gadget variable
`ElementVar`, in both backends; 101 impl blocks at /repo's dca9ca3), regenerated on every run by translator/extract_opforms.py
as a function on the denoted group element, computes the group operation — in every additive commutative group, hence on the
curve group.  (Assume-guarantee over the forwarding graph: inside a body, `+ - neg •` are the operations of the forms they
forward to or of the backend's base arithmetic, which C04/C05 prove correct; see the translator's header.)

Every proof below has one shape.  `simp only [‹the list›, forms]` unfolds the list literal and makes the statement about its
entries the conjunction of its instances, without those that are syntactic identities — all of them for a list without forms,
most of them otherwise.  What is left are the forms spelt differently from the operation (`a + -b`, `a * b⁻¹`), each an
identity of commutative groups or of fields.
-/
import Decaf.Generated.OpForms
import Decaf.Lemmas.SimpAttr
import Mathlib.Tactic.Abel
import Mathlib.Tactic.Ring
import Mathlib.Algebra.BigOperators.Group.List.Basic

attribute [local forms] List.forall_mem_cons List.not_mem_nil false_imp_iff implies_true and_true true_and and_self

namespace Formulas.OpForms
open Gen.OpForms

variable {G : Type} [AddCommGroup G]

theorem addForms_correct : ∀ f ∈ (addForms : List (String × (G → G → G))), ∀ a b, f.2 a b = a + b := by
  simp only [addForms, forms]
  and_intros
  all_goals intro a b; abel

theorem subForms_correct : ∀ f ∈ (subForms : List (String × (G → G → G))), ∀ a b, f.2 a b = a - b := by
  simp only [subForms, forms]
  and_intros
  all_goals intro a b; abel

theorem negForms_correct : ∀ f ∈ (negForms : List (String × (G → G))), ∀ a, f.2 a = -a := by
  simp only [negForms, forms]
  and_intros
  all_goals intro a; abel

theorem mulForms_correct : ∀ f ∈ (mulForms : List (String × (ℕ → G → G))), ∀ k a, f.2 k a = k • a := by
  simp only [mulForms, forms]
  and_intros
  all_goals intro k a; abel

/-! ### `impl Sum<…> for Element` and `Element::vartime_multiscalar_mul` -/

theorem gsumForms_correct : ∀ f ∈ (gsumForms : List (String × (List G → G))), ∀ l, f.2 l = l.sum := by
  simp only [gsumForms, List.sum_eq_foldl, List.foldl_map, List.map_id', List.map_id, forms]

/-- the multiscalar multiplication is the sum of the products, over the pairs `zip` forms (the shorter list decides) -/
theorem msmForms_correct : ∀ f ∈ (msmForms : List (String × (List ℕ → List G → G))), ∀ ss ps,
    f.2 ss ps = ((ss.zip ps).map (fun sp => sp.1 • sp.2)).sum := by
  simp only [msmForms, List.sum_eq_foldl, List.foldl_map, add_comm, forms]

end Formulas.OpForms

/-! ### the operator forms of the three prime fields (src/fields/{fq,fr,fp}/ops.rs; 87 impl blocks at dca9ca3),
on the denoted field element: every form computes the field operation, in every field. -/
namespace Formulas.FieldOpForms
open Gen.FieldOpForms

variable {K : Type} [Field K]

theorem addForms_correct : ∀ f ∈ (addForms : List (String × (K → K → K))), ∀ a b, f.2 a b = a + b := by
  simp only [addForms, forms]
  and_intros
  all_goals intro a b; ring

theorem subForms_correct : ∀ f ∈ (subForms : List (String × (K → K → K))), ∀ a b, f.2 a b = a - b := by
  simp only [subForms, forms]
  and_intros
  all_goals intro a b; ring

theorem mulForms_correct : ∀ f ∈ (mulForms : List (String × (K → K → K))), ∀ a b, f.2 a b = a * b := by
  simp only [mulForms, forms]
  and_intros
  all_goals intro a b; ring

/-- division forms: `a / b` (the implementation panics on `b = 0`; the denotation `a * b⁻¹` is the same function) -/
theorem divForms_correct : ∀ f ∈ (divForms : List (String × (K → K → K))), ∀ a b, f.2 a b = a / b := by
  simp only [divForms, forms]
  and_intros
  all_goals intro a b; ring

theorem negForms_correct : ∀ f ∈ (negForms : List (String × (K → K))), ∀ a, f.2 a = -a := by
  simp only [negForms, forms]
  and_intros
  all_goals intro a; ring

theorem sumForms_correct : ∀ f ∈ (sumForms : List (String × (List K → K))), ∀ l, f.2 l = l.sum := by
  simp only [sumForms, List.sum_eq_foldl, forms]

theorem prodForms_correct : ∀ f ∈ (prodForms : List (String × (List K → K))), ∀ l, f.2 l = l.prod := by
  simp only [prodForms, List.prod_eq_foldl, forms]

/-! ### `impl From<u128 | u64 | u32 | u16 | u8 | bool>` of the three fields: the integer itself -/

def limbsVal : List ℕ → ℕ
  | [] => 0
  | l :: ls => l + 2 ^ 64 * limbsVal ls

/-- with `from_le_limbs` meeting its contract (the element denoted by the limbs: C11), every `From<integer>` form maps
n < 2^128 (every value of the source types) to n itself: its two 64-bit halves, then zero limbs -/
theorem fromIntForms_correct (fromLimbs : List ℕ → K) (hL : ∀ l, fromLimbs l = ((limbsVal l : ℕ) : K)) :
    ∀ f ∈ (fromIntForms : List (String × ((List ℕ → K) → ℕ → K))), ∀ n : ℕ, n < 2 ^ 128 → f.2 fromLimbs n = (n : K) := by
  have key {B n : ℕ} (hn : n < B * B) : n % B + B * (n / B % B) = n := by
    rw [Nat.mod_eq_of_lt (Nat.div_lt_of_lt_mul hn), Nat.mod_add_div]
  simp only [fromIntForms, hL, limbsVal, Nat.mul_zero, Nat.add_zero, forms]
  and_intros
  all_goals intro n hn; rw [key (B := 2 ^ 64) hn]

end Formulas.FieldOpForms
