/-
The conversion entry points between byte strings, `Encoding` and `Element` (`impl From / TryFrom` in
src/min_curve/element.rs and src/ark_curve/encoding.rs; 20 impl blocks at /repo's dca9ca3), regenerated on every run by
translator/extract_convforms.py on denotations (a slice / array / `Encoding` is its list of bytes; `dec`, `enc` are the two
backend primitives, translated and proved separately).  Every entry meets its specification, for every decoder and encoder.

Every proof below has one shape: `simp only [‹the list›, forms]` leaves the conjunction of the instances that are not
syntactically their specification (none, for most lists at dca9ca3); each of those is settled by the cases of its
length test or of its mode flags.
-/
import Decaf.Generated.ConvForms
import Decaf.Lemmas.SimpAttr
import Mathlib.Data.List.Basic

attribute [local forms] List.forall_mem_cons List.not_mem_nil false_imp_iff implies_true and_true true_and and_self

namespace Formulas.ConvForms
open Gen.ConvForms

variable {α ε : Type}

/-- slices: length 32 decodes exactly as the decoder does, every other length is the length error -/
theorem decodeSliceForms_correct : ∀ f ∈ (decodeSliceForms : List (String × ((List ℕ → Except ε α) → ε → ε → List ℕ → Except ε α))),
    ∀ (dec : List ℕ → Except ε α) (lenErr encErr : ε) (b : List ℕ),
      f.2 dec lenErr encErr b = if b.length = 32 then dec b else .error lenErr := by
  simp only [decodeSliceForms, beq_iff_eq, forms]
  and_intros
  all_goals intro dec lenErr encErr b; by_cases h : b.length = 32 <;> simp [h]

/-- fixed-size inputs (`[u8; 32]`, `Encoding`, `&Encoding`): exactly the decoder -/
theorem decodeFixedForms_correct : ∀ f ∈ (decodeFixedForms : List (String × ((List ℕ → Except ε α) → List ℕ → Except ε α))),
    ∀ (dec : List ℕ → Except ε α) (b : List ℕ), f.2 dec b = dec b := by
  simp only [decodeFixedForms, forms]

/-- `TryFrom<&[u8]> for Encoding`: the same 32 bytes, or the length error -/
theorem encodingOfSliceForms_correct : ∀ f ∈ (encodingOfSliceForms : List (String × (ε → ε → List ℕ → Except ε (List ℕ)))),
    ∀ (lenErr encErr : ε) (b : List ℕ), f.2 lenErr encErr b = if b.length = 32 then .ok b else .error lenErr := by
  simp only [encodingOfSliceForms, beq_iff_eq, forms]
  and_intros
  all_goals intro lenErr encErr b; by_cases h : b.length = 32 <;> simp [h, List.take_of_length_le]

theorem encodeForms_correct : ∀ f ∈ (encodeForms : List (String × ((α → List ℕ) → α → List ℕ))),
    ∀ (enc : α → List ℕ) (e : α), f.2 enc e = enc e := by
  simp only [encodeForms, forms]

/-- `[u8; 32]` ↔ `Encoding`: the identity on the bytes -/
theorem bytesForms_correct : ∀ f ∈ (bytesForms : List (String × (List ℕ → List ℕ))), ∀ b : List ℕ, f.2 b = b := by
  simp only [bytesForms, forms]

/-! ### the stream deserialisers (`CanonicalDeserialize for Encoding | Element | AffinePoint`) -/

/-- `Encoding`: in (Yes, Yes) mode the first 32 bytes the reader delivers, the io error when fewer are left; every other mode is
the `unimplemented!()` panic -/
theorem deserEncodingForms_correct : ∀ f ∈ (deserEncodingForms : List (String × (Bool → Bool → List ℕ → Except SerErr (List ℕ)))),
    ∀ (compress validate : Bool) (inp : List ℕ),
      f.2 compress validate inp =
        if compress && validate then (if inp.length < 32 then .error .io else .ok (inp.take 32)) else .error .panic := by
  simp only [deserEncodingForms, forms]
  and_intros
  all_goals intro c v inp; cases c <;> cases v <;> rfl

/-- `Element`, `AffinePoint`: in (Yes, Yes) mode the decoder on the first 32 bytes, every decoding error becoming
`InvalidData`, the io error on short input; every other mode is the panic -/
theorem deserElementForms_correct : ∀ f ∈ (deserElementForms : List (String × ((List ℕ → Except ε α) → Bool → Bool → List ℕ → Except SerErr α))),
    ∀ (dec : List ℕ → Except ε α) (compress validate : Bool) (inp : List ℕ),
      f.2 dec compress validate inp =
        if compress && validate then
          (if inp.length < 32 then .error .io else
            match dec (inp.take 32) with | .ok el => .ok el | .error _ => .error .invalidData)
        else .error .panic := by
  simp only [deserElementForms, forms]
  and_intros
  all_goals intro dec c v inp; cases c <;> cases v <;> rfl

/-! ### the stream serialisers (`CanonicalSerialize for Encoding | Element | AffinePoint`) -/

/-- `serialized_size`: 32 in compressed mode, the `unimplemented!()` panic otherwise -/
theorem serSizeForms_correct : ∀ f ∈ (serSizeForms : List (String × (Bool → Except SerErr ℕ))),
    ∀ compress : Bool, f.2 compress = if compress then .ok 32 else .error .panic := by
  simp only [serSizeForms, forms]
  and_intros
  all_goals intro c; cases c <;> rfl

/-- `Encoding`: exactly the 32 bytes are written, in either mode -/
theorem serEncodingForms_correct : ∀ f ∈ (serEncodingForms : List (String × (Bool → List ℕ → Except SerErr (List ℕ)))),
    ∀ (mode : Bool) (b : List ℕ), f.2 mode b = .ok b := by
  simp only [serEncodingForms, forms]
  and_intros
  all_goals intro m b; cases m <;> rfl

/-- `Element`, `AffinePoint`: exactly the canonical encoding is written -/
theorem serElementForms_correct : ∀ f ∈ (serElementForms : List (String × ((α → List ℕ) → Bool → α → Except SerErr (List ℕ)))),
    ∀ (enc : α → List ℕ) (mode : Bool) (e : α), f.2 enc mode e = .ok (enc e) := by
  simp only [serElementForms, forms]
  and_intros
  all_goals intro enc m e; cases m <;> rfl

/-! ### `Hash for Element | AffinePoint` -/

/-- what reaches the hasher is exactly the encoder's output on the element — for EVERY reading `raw` of the stored curve
point, i.e. never anything read off `self.inner` (before the repair 4439c64 the impls hashed `self.inner`, which would make this `raw e = enc e`, unprovable) -/
theorem hashForms_correct {β : Type} : ∀ f ∈ (hashForms : List (String × ((α → β) → (α → β) → α → β))),
    ∀ (enc raw : α → β) (e : α), f.2 enc raw e = enc e := by
  simp only [hashForms, forms]

end Formulas.ConvForms
