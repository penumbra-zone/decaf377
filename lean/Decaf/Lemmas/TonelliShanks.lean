/-
The minimal backend's square root (`min_curve/invsqrt.rs`): `pow_le_limbs`, the constant-time Tonelli–Shanks loop
`our_sqrt`, and `non_arkworks_sqrt_ratio_zeta`, which is shown to meet the four-case contract `SRContract`.
What arkworks' generic `Field::sqrt` (GenericSqrt.lean) has in common with it is stated for any modulus: `pow_le_limbs`,
Euler's criterion as the code computes it, and the Tonelli–Shanks invariant `TSInv` with its one step (`ts_step`).
-/
import Decaf.Lemmas.ModelEncoding

namespace Model
open Edwards Decaf

theorem cast_powLeLimbsAux (m : ℕ) (bits : List Bool) (acc ins : ℕ) :
    ((powLeLimbsAux m bits acc ins : ℕ) : ZMod m) = (acc : ZMod m) * (ins : ZMod m) ^ bitsVal bits := by
  induction bits generalizing acc ins with
  | nil => simp [powLeLimbsAux, bitsVal]
  | cons b bs ih =>
    rw [powLeLimbsAux, ih, bitsVal, cast_fmul, pow_add, pow_mul, ← sq]
    cases b <;> simp [mul_assoc]

theorem cast_powLeLimbs (m x : ℕ) (limbs : List ℕ) (h : ∀ l ∈ limbs, l < 2 ^ 64) :
    ((powLeLimbs m x limbs : ℕ) : ZMod m) = (x : ZMod m) ^ Lit.ofLimbs 64 limbs := by
  unfold powLeLimbs
  rw [cast_powLeLimbsAux, bitsVal_limbsBits limbs h]
  simp

theorem powLeLimbsAux_lt (m : ℕ) (hm : 0 < m) : ∀ (bits : List Bool) (acc ins : ℕ), acc < m → powLeLimbsAux m bits acc ins < m
  | [], _, _, ha => ha
  | b :: bs, _, _, ha => powLeLimbsAux_lt m hm bs _ _ (by cases b; exacts [ha, fmul_lt hm _ _])

theorem powLeLimbs_lt (m x : ℕ) (hm : 1 < m) (limbs : List ℕ) : powLeLimbs m x limbs < m :=
  powLeLimbsAux_lt m (by omega) _ _ _ (Nat.mod_lt _ (by omega))

theorem cast_iterSq (m n b : ℕ) : ((iterSq m n b : ℕ) : ZMod m) = (b : ZMod m) ^ (2 ^ n) := by
  induction n generalizing b with
  | zero => simp [iterSq]
  | succ n ih => unfold iterSq; rw [ih, cast_fmul, pow_succ, pow_mul', sq]

theorem iterSq_lt (m : ℕ) (hm : 0 < m) : ∀ n b : ℕ, b < m → iterSq m n b < m
  | 0, _, hb => hb
  | n + 1, _, _ => iterSq_lt m hm n _ (fmul_lt hm _ _)

theorem beq_one_iff {m b : ℕ} (hb : b < m) : (b == 1 % m) = true ↔ (b : ZMod m) = 1 := by
  rw [beq_iff_cast hb (Nat.mod_lt 1 (Nat.zero_lt_of_lt hb)), ZMod.natCast_mod, Nat.cast_one]

section
variable {m : ℕ} [Fact m.Prime]

/-- Euler's criterion as the code computes it: `pow_le_limbs(a, (m-1)/2) == 1` decides whether `a ≠ 0` is a square -/
theorem powLeLimbs_half_beq_one (hm : 2 < m) {half : List ℕ} (hl : ∀ l ∈ half, l < 2 ^ 64)
    (hh : Lit.ofLimbs 64 half = (m - 1) / 2) {a : ℕ} (ha : (a : ZMod m) ≠ 0) :
    (powLeLimbs m a half == 1 % m) = true ↔ IsSquare (a : ZMod m) := by
  have hm1 : 1 < m := lt_trans (by norm_num) hm
  rw [beq_one_iff (powLeLimbs_lt m a hm1 half), cast_powLeLimbs m a _ hl, hh, euler' hm ha]

end

/-- the Tonelli–Shanks invariant at level `v`, on the state `(x, b, z)` of `our_sqrt` and of arkworks' loop alike: `x` is a
root of `a·b`, the order of `b` divides `2^(v-1)`, and `z` has order `2^v`.  `x` (returned) and `b` (compared with 1) are
canonical -/
structure TSInv (m : ℕ) (a : ZMod m) (v x b z : ℕ) : Prop where
  x_lt : x < m
  b_lt : b < m
  sq : (x : ZMod m) ^ 2 = a * (b : ZMod m)
  b_pow : (b : ZMod m) ^ 2 ^ (v - 1) = 1
  z_pow : (z : ZMod m) ^ 2 ^ (v - 1) = -1

/-- one step: if `b^(2^(k-1)) = -1` for some `1 ≤ k < v`, then with `w = z^(2^(v-k-1))` the state `(x·w, b·w², w²)` satisfies
the invariant at level `k` -/
theorem ts_step {m : ℕ} {a : ZMod m} {v x b z k w : ℕ} (h : TSInv m a v x b z) (hk : 1 ≤ k) (hkv : k < v)
    (hw : (w : ZMod m) = (z : ZMod m) ^ 2 ^ (v - k - 1)) (hb : (b : ZMod m) ^ 2 ^ (k - 1) = -1) :
    TSInv m a k (fmul m x w) (fmul m b (fmul m w w)) (fmul m w w) := by
  have hm : 0 < m := Nat.zero_lt_of_lt h.x_lt
  have hw2 : ((fmul m w w : ℕ) : ZMod m) ^ 2 ^ (k - 1) = -1 := by
    rw [cast_fmul, ← sq, hw, ← pow_mul, ← pow_mul, ← pow_succ', ← pow_add, show v - k - 1 + (k - 1 + 1) = v - 1 by omega, h.z_pow]
  refine ⟨fmul_lt hm _ _, fmul_lt hm _ _, ?_, ?_, hw2⟩
  · rw [cast_fmul, cast_fmul, cast_fmul, mul_pow, h.sq, sq (w : ZMod m), mul_assoc]
  · rw [cast_fmul, mul_pow, hb, hw2, neg_mul_neg, one_mul]

/-- the loop of `our_sqrt` (min_curve/invsqrt.rs:36-54), counting down: at the top of iteration `i + 1` the state `(z, t, c)`
satisfies the invariant at level `i + 1`; `b = t^(2^(i-1))` is `±1`, and `b = -1` is `ts_step` with `w = c` -/
theorem ourSqrtLoop_spec (x : Fq) : ∀ (i z t c : ℕ), TSInv q x (i + 1) z t c →
    ((ourSqrtLoop (i + 1) z t t c : ℕ) : Fq) ^ 2 = x ∧ ourSqrtLoop (i + 1) z t t c < q
  | 0, z, t, c, h => by
    have ht := h.b_pow
    rw [pow_zero, pow_one] at ht
    rw [ourSqrtLoop, h.sq, ht, mul_one]
    exact ⟨rfl, h.x_lt⟩
  | k + 1, z, t, c, h => by
    have hc' : ((fmul q c c : ℕ) : Fq) ^ 2 ^ k = -1 := by
      rw [cast_fmul, ← sq, ← pow_mul, ← pow_succ']; exact h.z_pow
    have hb2 : ((iterSq q k t : ℕ) : Fq) ^ 2 = 1 := by rw [cast_iterSq, ← pow_mul, ← pow_succ]; exact h.b_pow
    unfold ourSqrtLoop
    simp only []
    rcases sq_eq_one_iff.mp hb2 with hb | hb
    · have hb1 : iterSq q k t = 1 := eq_of_cast_eq (iterSq_lt q q_pos k t h.b_lt) one_lt_q (by rw [hb, Nat.cast_one])
      simp only [hb1, bne_self_eq_false, Bool.false_eq_true, if_false]
      exact ourSqrtLoop_spec x k z t _ ⟨h.x_lt, h.b_lt, h.sq, (cast_iterSq q k t).symm.trans hb, hc'⟩
    · have hb1 : (iterSq q k t != 1) = true := by
        rw [bne_iff_ne]; intro h1; rw [h1, Nat.cast_one] at hb; exact neg_one_ne_one q_gt_two hb.symm
      simp only [hb1, if_true]
      exact ourSqrtLoop_spec x k _ _ _ (ts_step (k := k + 1) h (by omega) (by omega) (by simp) ((cast_iterSq q k t).symm.trans hb))

theorem half_limbs_ok : (∀ l ∈ Gen.fields_fq.Fq.MODULUS_MINUS_ONE_DIV_TWO_LIMBS.nats, l < 2 ^ 64) ∧
    Lit.ofLimbs 64 Gen.fields_fq.Fq.MODULUS_MINUS_ONE_DIV_TWO_LIMBS.nats = (q - 1) / 2 := by decide +kernel

theorem trace_limbs_ok : (∀ l ∈ Gen.fields_fq.Fq.TRACE_MINUS_ONE_DIV_TWO_LIMBS.nats, l < 2 ^ 64) ∧
    2 ^ 46 * (2 * Lit.ofLimbs 64 Gen.fields_fq.Fq.TRACE_MINUS_ONE_DIV_TWO_LIMBS.nats + 1) = (q - 1) / 2 ∧
    Gen.fields_fq.Fq.TWO_ADICITY.natVal = 47 := by decide +kernel

theorem qnr_pow : powMod QNR_TO_TRACE (2 ^ 46) q = q - 1 := by decide +kernel

/-- `our_sqrt` returns a square root of every non-zero square: with `e = (trace - 1)/2` it starts the loop at `z = x^(e+1)`,
`t = x^(2e+1)`, and `t^(2^46) = x^((q-1)/2) = 1` by Euler's criterion -/
theorem ourSqrt_spec {x : ℕ} (hx0 : (x : Fq) ≠ 0) (hsq : IsSquare (x : Fq)) :
    ((ourSqrt x : ℕ) : Fq) ^ 2 = (x : Fq) ∧ ourSqrt x < q := by
  obtain ⟨hl, he, h47⟩ := trace_limbs_ok
  rw [ourSqrt, h47]
  refine ourSqrtLoop_spec (x : Fq) 46 _ _ _ ⟨fmul_lt q_pos _ _, fmul_lt q_pos _ _, ?_, ?_, ?_⟩
  · rw [cast_fmul, cast_fmul, cast_fmul]; ring
  · rw [cast_fmul, cast_fmul, cast_powLeLimbs q x _ hl, ← pow_add, ← pow_succ, ← pow_mul, ← two_mul, Nat.mul_comm, he]
    exact (euler' q_gt_two hx0).mp hsq
  · exact pow_eq_neg_one_of_powMod q_pos qnr_pow

/-- `non_arkworks_sqrt_ratio_zeta` after the early returns (min_curve/invsqrt.rs:87-94), with `x = num/den`: the Euler test
tells whether `x` is a square; if not, `ζ·x` is, as a product of two non-squares -/
theorem sqrtRatioMin_main (n d : ℕ) (hn : n < q) (hd : d < q) (hn0 : n ≠ 0) (hd0 : d ≠ 0) :
    ∃ f y, sqrtRatioMin n d = some (f, y) ∧ y < q ∧ (f = true ↔ IsSquare ((n : Fq) / (d : Fq))) ∧
      (y : Fq) ^ 2 * (d : Fq) = if f then (n : Fq) else (ZETA : Fq) * (n : Fq) := by
  have hnq : (n : Fq) ≠ 0 := by rwa [Ne, cast_eq_zero_iff hn]
  have hdq : (d : Fq) ≠ 0 := by rwa [Ne, cast_eq_zero_iff hd]
  have hxc : ((fmul q n (finv q d) : ℕ) : Fq) = (n : Fq) / (d : Fq) := by rw [cast_fmul, cast_finv q_gt_two, div_eq_mul_inv]
  rw [sqrtRatioMin, if_neg (by simpa using hn0), if_neg (by simpa using hd0)]
  simp only []
  generalize fmul q n (finv q d) = x at hxc
  have hx0 : (x : Fq) ≠ 0 := hxc ▸ div_ne_zero hnq hdq
  have hxd : (x : Fq) * (d : Fq) = (n : Fq) := by rw [hxc, div_mul_cancel₀ _ hdq]
  have hsym := powLeLimbs_half_beq_one q_gt_two half_limbs_ok.1 half_limbs_ok.2 hx0
  rw [Nat.mod_eq_of_lt one_lt_q] at hsym
  rw [← hxc]
  by_cases hsq : IsSquare (x : Fq)
  · obtain ⟨hy2, hylt⟩ := ourSqrt_spec hx0 hsq
    exact ⟨true, _, if_pos (hsym.mpr hsq), hylt, iff_of_true rfl hsq, by rw [hy2, hxd]; rfl⟩
  · have hzxc : ((fmul q ZETA_min x : ℕ) : Fq) = (ZETA : Fq) * (x : Fq) := by rw [cast_fmul, zeta_min_eq]
    have hzx0 : ((fmul q ZETA_min x : ℕ) : Fq) ≠ 0 := hzxc ▸ mul_ne_zero zeta_ne_zero hx0
    have hzxsq : IsSquare ((fmul q ZETA_min x : ℕ) : Fq) := by
      rw [euler' q_gt_two hzx0, hzxc, mul_pow, pow_half_eq_neg_one q_gt_two zeta_ne_zero zeta_nonsquare,
        pow_half_eq_neg_one q_gt_two hx0 hsq, neg_mul_neg, one_mul]
    obtain ⟨hy2, hylt⟩ := ourSqrt_spec hzx0 hzxsq
    exact ⟨false, _, if_neg (mt hsym.mp hsq), hylt, iff_of_false Bool.false_ne_true hsq, by rw [hy2, hzxc, mul_assoc, hxd]; rfl⟩

theorem sqrtRatioMin_contract : SRContract sqrtRatioMin :=
  .of_main (fun _ => rfl) (fun n hn => by unfold sqrtRatioMin; simp [hn]) sqrtRatioMin_main

end Model
