/-
`Model.powMod` is the power in `ZMod m`; Lucas' primality criterion with its conditions as `powMod` evaluates them
(`prime_of_lucas_cert`), on which the Pratt checker of Lemmas/Primes rests.
-/
import Mathlib.NumberTheory.LucasPrimality
import Mathlib.Algebra.BigOperators.Group.List.Basic
import Mathlib.Data.ZMod.Basic
import Decaf.Model.Field

namespace Model

theorem powModAux_modEq (m : ℕ) : ∀ (fuel a e acc : ℕ), e < 2 ^ fuel →
    powModAux m fuel a e acc ≡ acc * a ^ e [MOD m] := by
  intro fuel
  induction fuel with
  | zero =>
    intro a e acc h
    obtain rfl : e = 0 := by simpa using h
    rw [powModAux, pow_zero, mul_one]
  | succ n ih =>
    intro a e acc h
    unfold powModAux
    -- `a^e = (a·a)^(e/2) · a^(e%2)`
    have h2 : (a * a % m) ^ (e / 2) ≡ a ^ (2 * (e / 2)) [MOD m] := by
      rw [pow_mul, sq]; exact (Nat.mod_modEq _ _).pow _
    have hlt : e / 2 < 2 ^ n := by omega
    split_ifs with h0 h1
    · rw [h0, pow_zero, mul_one]
    · refine (ih _ _ _ hlt).trans (((Nat.mod_modEq _ _).mul h2).trans ?_)
      rw [mul_right_comm, mul_assoc, ← pow_succ, show 2 * (e / 2) + 1 = e by omega]
    · refine (ih _ _ _ hlt).trans (((Nat.ModEq.refl acc).mul h2).trans ?_)
      rw [show 2 * (e / 2) = e by omega]

theorem powMod_modEq (a e m : ℕ) : powMod a e m ≡ a ^ e [MOD m] := by
  have := powModAux_modEq m e (a % m) e (1 % m) Nat.lt_two_pow_self
  unfold powMod
  refine this.trans ?_
  have h1 : (1 % m) ≡ 1 [MOD m] := Nat.mod_modEq _ _
  have h2 : (a % m) ^ e ≡ a ^ e [MOD m] := (Nat.mod_modEq _ _).pow _
  simpa using h1.mul h2

theorem powMod_eq (a e m : ℕ) : powMod a e m % m = a ^ e % m := powMod_modEq a e m

theorem powModAux_lt (m : ℕ) (hm : 0 < m) : ∀ (fuel a e acc : ℕ), acc < m → powModAux m fuel a e acc < m := by
  intro fuel
  induction fuel with
  | zero => intro a e acc h; simpa [powModAux] using h
  | succ n ih =>
    intro a e acc h
    unfold powModAux
    split_ifs with h0 h1
    · exact h
    · exact ih _ _ _ (Nat.mod_lt _ hm)
    · exact ih _ _ _ h

theorem powMod_lt (a e m : ℕ) (hm : 1 < m) : powMod a e m < m := by
  unfold powMod
  exact powModAux_lt m (by omega) _ _ _ _ (Nat.mod_lt _ (by omega))

theorem cast_powMod (a e m : ℕ) : ((powMod a e m : ℕ) : ZMod m) = (a : ZMod m) ^ e := by
  rw [← Nat.cast_pow]
  exact (ZMod.natCast_eq_natCast_iff _ _ _).mpr (powMod_modEq a e m)

theorem powMod_eq_one_iff {p a e : ℕ} (hp : 1 < p) : powMod a e p = 1 ↔ (a : ZMod p) ^ e = 1 := by
  rw [← cast_powMod, ← Nat.cast_one (R := ZMod p), ZMod.natCast_eq_natCast_iff',
    Nat.mod_eq_of_lt (powMod_lt a e p hp), Nat.mod_eq_of_lt hp]

theorem pow_eq_neg_one_of_powMod {m a e : ℕ} (hm : 0 < m) (h : powMod a e m = m - 1) : (a : ZMod m) ^ e = -1 := by
  rw [← cast_powMod, h, Nat.cast_sub hm, ZMod.natCast_self, Nat.cast_one, zero_sub]

theorem prime_of_lucas_cert (p a : ℕ) (fs : List ℕ) (es : List ℕ) (hp : 1 < p)
    (hfac : (List.zipWith (· ^ ·) fs es).prod = p - 1)
    (hlen : fs.length = es.length)
    (hprime : ∀ l ∈ fs, Nat.Prime l)
    (h1 : powMod a (p - 1) p = 1)
    (h2 : ∀ l ∈ fs, powMod a ((p - 1) / l) p ≠ 1) : Nat.Prime p := by
  apply lucas_primality p (a : ZMod p) ((powMod_eq_one_iff hp).mp h1)
  intro l hl hdvd
  have : l ∈ fs := by
    obtain ⟨x, hx, hlx⟩ := (Prime.dvd_prod_iff hl.prime).mp (hfac ▸ hdvd)
    obtain ⟨i, hi, rfl⟩ := List.mem_iff_getElem.mp hx
    have hi' : i < fs.length := by rw [List.length_zipWith] at hi; omega
    rw [List.getElem_zipWith] at hlx
    rw [(Nat.prime_dvd_prime_iff_eq hl (hprime _ (List.getElem_mem hi'))).mp (hl.prime.dvd_of_dvd_pow hlx)]
    exact List.getElem_mem hi'
  exact mt (powMod_eq_one_iff hp).mpr (h2 l this)

end Model
