import Mathlib.Tactic.Attr.Register

/-- The cast of a model operation or constant into `ZMod m` is the field operation or constant. -/
register_simp_attr fq

/-- A model operation returns a canonical value (`fmul m a b < m`, …): the side conditions of `cast_inj`, `beq_iff_cast`. -/
register_simp_attr canon

/-- `∀ f ∈ [e₁, …, eₙ], P f` about a list literal is `P e₁ ∧ … ∧ P eₙ`, less the instances that are syntactic identities and
those that repeat their neighbour: `List.forall_mem_cons`, and what disposes of the empty tail, of `True` and of `P ∧ P`
(the regenerated form lists of Lemmas/Formulas/OpForms, ConvForms). -/
register_simp_attr forms
