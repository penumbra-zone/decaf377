/-
`Model.C16.swMul` adds affine points of y² = x³ + 1 over Fp, and every addition inverts a denominator by a Fermat power.  Here is the
same double-and-add on projective triples `(X, Y, Z)` standing for `(X/Z, Y/Z)`: the tests are cross-multiplied, the slope is kept as
a fraction `N/D`, and nothing is inverted.  `swAdd_rel` shows that the two additions take the same branches and return the same
point, so a multiple that evaluates to `none` in triples is `none` in the model (`swMul_eq_none`).
-/
import Decaf.Lemmas.Bridge
import Decaf.Model.ConstFacts

namespace Model.C16

attribute [local irreducible] p

/-- for slope `N/D`, with `U1 = x1·W`, `V1 = y1·W`, `S = (x1 + x2)·W`: the triple `(x3·Z3, y3·Z3, Z3)`, `Z3 = D³·W`, of the point
`x3 = (N/D)² - x1 - x2`, `y3 = (N/D)·(x1 - x3) - y1`.  The model's `finv p 0` is `0`, so its slope for `D = 0` is `0`. -/
def chordP (N D U1 V1 S W : ℕ) : ℕ × ℕ × ℕ :=
  if D == 0 then (fneg p S, fneg p V1, W)
  else
    let D2 := fsq p D
    let D3 := fmul p D D2
    let A := fsub p (fmul p (fsq p N) W) (fmul p D2 S)
    (fmul p D A, fsub p (fmul p N (fsub p (fmul p U1 D2) A)) (fmul p D3 V1), fmul p D3 W)

/-- `swAdd` on triples, branch for branch: `U1 == U2` is `x1 == x2` and `V1 + V2 == 0` is `y1 + y2 == 0`, both sides multiplied by
`Z1·Z2`; the slope is `3·X1²/(2·Y1·Z1)` for a doubling, `(V2 - V1)/(U2 - U1)` otherwise -/
def swAddP (P Q : Option (ℕ × ℕ × ℕ)) : Option (ℕ × ℕ × ℕ) :=
  match P, Q with
  | none, Q => Q
  | P, none => P
  | some (X1, Y1, Z1), some (X2, Y2, Z2) =>
    let U1 := fmul p X1 Z2
    let U2 := fmul p X2 Z1
    let V1 := fmul p Y1 Z2
    let V2 := fmul p Y2 Z1
    if U1 == U2 && fadd p V1 V2 == 0 then none
    else
      let N := if U1 == U2 then fmul p 3 (fsq p X1) else fsub p V2 V1
      let D := if U1 == U2 then fmul p 2 (fmul p Y1 Z1) else fsub p U2 U1
      some (chordP N D U1 V1 (fadd p U1 U2) (fmul p Z1 Z2))

def swMulPAux : ℕ → Option (ℕ × ℕ × ℕ) → ℕ → Option (ℕ × ℕ × ℕ) → Option (ℕ × ℕ × ℕ)
  | 0, _, _, acc => acc
  | fuel + 1, P, e, acc =>
    if e = 0 then acc else swMulPAux fuel (swAddP P P) (e / 2) (if e % 2 = 1 then swAddP acc P else acc)

def swMulP (P : ℕ × ℕ) (e : ℕ) : Option (ℕ × ℕ × ℕ) := swMulPAux e (some (P.1, P.2, 1)) e none

/-- a triple stands for a canonical affine point -/
inductive Rel : Option (ℕ × ℕ) → Option (ℕ × ℕ × ℕ) → Prop
  | none : Rel none none
  | some {x y X Y Z : ℕ} (hx : x < p) (hy : y < p) (hZ : (Z : ZMod p) ≠ 0) (hX : (x : ZMod p) * Z = X) (hY : (y : ZMod p) * Z = Y) :
    Rel (some (x, y)) (some (X, Y, Z))

theorem two_lt_p : 2 < p := by decide +kernel

/-- a test on canonical values can be made on their multiples by a common non-zero factor -/
theorem beq_scale {a b a' b' : ℕ} {c : ZMod p} (hc : c ≠ 0) (ha : a < p) (hb : b < p) (ha' : a' < p) (hb' : b' < p)
    (h1 : (a' : ZMod p) = a * c) (h2 : (b' : ZMod p) = b * c) : (a' == b') = (a == b) := by
  rw [Bool.eq_iff_iff, beq_iff_cast ha' hb', beq_iff_cast ha hb, h1, h2, mul_left_inj' hc]

/-- the point `swAdd` computes from the slope `lam = n/d` (with `0⁻¹ = 0`) is the one `chordP` computes from any fraction
`N/D = (n·k)/(d·k)` -/
theorem rel_chord {lam x1 y1 x2 N D U1 V1 S W : ℕ} {n d k : ZMod p} (hk : k ≠ 0) (hlam : (lam : ZMod p) = n * d⁻¹)
    (hN : (N : ZMod p) = n * k) (hD : (D : ZMod p) = d * k) (hDp : D < p) (hW : (W : ZMod p) ≠ 0)
    (hU : (U1 : ZMod p) = x1 * W) (hV : (V1 : ZMod p) = y1 * W) (hS : (S : ZMod p) = (x1 + x2) * W) :
    Rel (some (let x3 := fsub p (fsub p (fsq p lam) x1) x2; (x3, fsub p (fmul p lam (fsub p x1 x3)) y1)))
      (some (chordP N D U1 V1 S W)) := by
  have hp := prime_p.pos
  rw [chordP]
  split
  · next h0 =>
    have hd : d = 0 := by
      rw [beq_iff_cast hDp hp, hD, Nat.cast_zero] at h0
      exact (mul_eq_zero.mp h0).resolve_right hk
    have hl : (lam : ZMod p) = 0 := by rw [hlam, hd, inv_zero, mul_zero]
    refine .some (fsub_lt hp _ _) (fsub_lt hp _ _) hW ?_ ?_
    · simp only [cast_fsub, cast_fsq, cast_fneg, hl, hS]; ring
    · simp only [cast_fsub, cast_fmul, cast_fneg, hl, hV]; ring
  · next h0 =>
    have hD0 : (D : ZMod p) ≠ 0 := by rwa [beq_iff_cast hDp hp, Nat.cast_zero] at h0
    have hd : d ≠ 0 := left_ne_zero_of_mul (hD ▸ hD0)
    have hl : (N : ZMod p) = lam * D := by rw [hlam, hN, hD, mul_assoc, inv_mul_cancel_left₀ hd]
    refine .some (fsub_lt hp _ _) (fsub_lt hp _ _) ?_ ?_ ?_
    · simp only [cast_fmul, cast_fsq]
      exact mul_ne_zero (mul_ne_zero hD0 (pow_ne_zero 2 hD0)) hW
    · simp only [cast_fsub, cast_fmul, cast_fsq, hl, hS]; ring
    · simp only [cast_fsub, cast_fmul, cast_fsq, hl, hU, hV, hS]; ring

theorem swAdd_rel {P Q : Option (ℕ × ℕ)} {P' Q' : Option (ℕ × ℕ × ℕ)} (hP : Rel P P') (hQ : Rel Q Q') :
    Rel (swAdd P Q) (swAddP P' Q') := by
  cases hP with
  | none => exact hQ
  | @some x1 y1 X1 Y1 Z1 hx1 hy1 hZ1 hX1 hY1 =>
  cases hQ with
  | none => exact .some hx1 hy1 hZ1 hX1 hY1
  | @some x2 y2 X2 Y2 Z2 hx2 hy2 hZ2 hX2 hY2 =>
  have hp := prime_p.pos
  have hW : ((fmul p Z1 Z2 : ℕ) : ZMod p) ≠ 0 := by rw [cast_fmul]; exact mul_ne_zero hZ1 hZ2
  have hU1 : ((fmul p X1 Z2 : ℕ) : ZMod p) = x1 * (fmul p Z1 Z2 : ℕ) := by rw [cast_fmul, cast_fmul, ← hX1]; ring
  have hU2 : ((fmul p X2 Z1 : ℕ) : ZMod p) = x2 * (fmul p Z1 Z2 : ℕ) := by rw [cast_fmul, cast_fmul, ← hX2]; ring
  have hV1 : ((fmul p Y1 Z2 : ℕ) : ZMod p) = y1 * (fmul p Z1 Z2 : ℕ) := by rw [cast_fmul, cast_fmul, ← hY1]; ring
  have hV2 : ((fmul p Y2 Z1 : ℕ) : ZMod p) = y2 * (fmul p Z1 Z2 : ℕ) := by rw [cast_fmul, cast_fmul, ← hY2]; ring
  have hS : ((fadd p (fmul p X1 Z2) (fmul p X2 Z1) : ℕ) : ZMod p) = (x1 + x2) * (fmul p Z1 Z2 : ℕ) := by
    rw [cast_fadd, hU1, hU2, add_mul]
  have hc : (fmul p X1 Z2 == fmul p X2 Z1) = (x1 == x2) := beq_scale hW hx1 hx2 (fmul_lt hp _ _) (fmul_lt hp _ _) hU1 hU2
  have ht : (fadd p (fmul p Y1 Z2) (fmul p Y2 Z1) == 0) = (fadd p y1 y2 == 0) :=
    beq_scale hW (fadd_lt hp _ _) hp (fadd_lt hp _ _) hp (by rw [cast_fadd, hV1, hV2, cast_fadd, add_mul])
      (by rw [Nat.cast_zero, zero_mul])
  rw [swAdd, swAddP, hc, ht]
  split
  · exact .none
  split
  · refine rel_chord (n := 3 * x1 ^ 2) (d := 2 * y1) (k := Z1 ^ 2) (pow_ne_zero 2 hZ1) ?_ ?_ ?_ (fmul_lt hp _ _) hW hU1 hV1 hS
    · rw [cast_fmul, cast_fmul, cast_fsq, cast_finv two_lt_p, cast_fmul, Nat.cast_ofNat, Nat.cast_ofNat]
    · rw [cast_fmul, cast_fsq, ← hX1, Nat.cast_ofNat]; ring
    · rw [cast_fmul, cast_fmul, ← hY1, Nat.cast_ofNat]; ring
  · refine rel_chord (n := y2 - y1) (d := x2 - x1) hW ?_ ?_ ?_ (fsub_lt hp _ _) hW hU1 hV1 hS
    · rw [cast_fmul, cast_fsub, cast_finv two_lt_p, cast_fsub]
    · rw [cast_fsub, hV2, hV1, sub_mul]
    · rw [cast_fsub, hU2, hU1, sub_mul]

theorem swMulAux_rel : ∀ (fuel : ℕ) {P acc : Option (ℕ × ℕ)} {P' acc' : Option (ℕ × ℕ × ℕ)} (e : ℕ), Rel P P' → Rel acc acc' →
    Rel (swMulAux fuel P e acc) (swMulPAux fuel P' e acc')
  | 0, _, _, _, _, _, _, ha => ha
  | fuel + 1, _, _, _, _, e, hP, ha => by
    rw [swMulAux, swMulPAux]
    split
    · exact ha
    · refine swMulAux_rel fuel _ (swAdd_rel hP hP) ?_
      split
      · exact swAdd_rel ha hP
      · exact ha

theorem swMul_eq_none {P : ℕ × ℕ} (hP : P.1 < p ∧ P.2 < p) {e : ℕ} (h : swMulP P e = none) : swMul P e = none := by
  have h1 : ((1 : ℕ) : ZMod p) = 1 := Nat.cast_one
  have hr : Rel (swMul P e) (swMulP P e) :=
    swMulAux_rel e e (.some hP.1 hP.2 (h1 ▸ one_ne_zero) (by rw [h1, mul_one]) (by rw [h1, mul_one])) .none
  rw [h] at hr
  generalize swMul P e = R at hr
  cases hr
  rfl

end Model.C16
