/-
The executable Elligator map (`Model.elligator`) against `Spec/Elligator.lean`, over `ZMod q` with the parity sign.
As for the encoder and the decoder (Lemmas/ModelEncoding.lean): the map asks `sr 1 (ellArg r0)` and returns
`ellOut r0 f v` for the answer `(f, v)` (`elligator_of_sr`); in Fq these are `ellNum·ellDen` and `elligatorFA`
(`cast_ellArg`, `cast_ellOut`), so an allowed answer gives a representative of the specified point (`ellOut_spec`).
The hypotheses `EllHyp` on the constants are kernel facts.
-/
import Decaf.Lemmas.ModelEncoding
import Decaf.Spec.Elligator

namespace Model
open Edwards Decaf

-- as in ModelEncoding.lean
attribute [local irreducible] q

theorem ellHyp : EllHyp params ((ZETA : ℕ) : Fq) where
  zeta := zeta_nonsquare
  h1 := by
    simpa only [fq, div_eq_mul_inv] using
      not_isSquare_of_powMod (a := fmul q (fadd q cD 1) (finv q (fmul q cD ZETA))) (by rw [cD_eq]; decide +kernel)
  h2 := by
    simpa only [fq, div_eq_mul_inv] using
      not_isSquare_of_powMod (a := fmul q cD (finv q (fmul q (fadd q cD 1) ZETA))) (by rw [cD_eq]; decide +kernel)
  h3 := by
    have : fadd q 1 (fmul q 2 cD) ≠ 0 := by rw [cD_eq]; decide +kernel
    simpa only [Ne, ← cast_eq_zero_iff (fadd_lt q_pos _ _), fq] using this

def ellArg (r0 : ℕ) : ℕ :=
  fmul q (fmul q (fadd q (fmul q ZETA (fsq q r0)) 1) (fsub q cA (fmul q 2 cD)))
    (fmul q (fsub q (fmul q cD (fmul q ZETA (fsq q r0))) (fsub q cD cA))
      (fsub q (fmul q (fsub q cD cA) (fmul q ZETA (fsq q r0))) cD))

/-- the values `s` and `t` both the native map and the gadget derive from a square-root answer (f, v) -/
def ellS (r0 : ℕ) (f : Bool) (v : ℕ) : ℕ :=
  let r := fmul q ZETA (fsq q r0)
  let num := fmul q (fadd q r 1) (fsub q cA (fmul q 2 cD))
  let s := fmul q (fmul q v (if f then 1 else r0)) num
  if isNeg s == f then fneg q s else s

def ellT (r0 : ℕ) (f : Bool) (v : ℕ) : ℕ :=
  let r := fmul q ZETA (fsq q r0)
  let num := fmul q (fadd q r 1) (fsub q cA (fmul q 2 cD))
  let isri := fmul q v (if f then 1 else r0)
  let s := fmul q isri num
  fsub q (fmul q (fmul q (fmul q (fmul q (fneg q (if f then 1 else fneg q 1)) isri) s) (fsub q r 1)) (fsq q (fsub q cA (fmul q 2 cD)))) 1

def ellE (r0 : ℕ) (f : Bool) (v : ℕ) : ℕ := fmul q 2 (ellS r0 f v)
def ellF (r0 : ℕ) (f : Bool) (v : ℕ) : ℕ := fadd q 1 (fmul q cA (fsq q (ellS r0 f v)))
def ellG (r0 : ℕ) (f : Bool) (v : ℕ) : ℕ := fsub q 1 (fmul q cA (fsq q (ellS r0 f v)))

/-- the extended coordinates (E·T : F·G : F·T : E·G) -/
def ellOut (r0 : ℕ) (f : Bool) (v : ℕ) : Ext :=
  ⟨fmul q (ellE r0 f v) (ellT r0 f v), fmul q (ellF r0 f v) (ellG r0 f v),
   fmul q (ellF r0 f v) (ellT r0 f v), fmul q (ellE r0 f v) (ellG r0 f v)⟩

theorem elligator_of_sr {sr : SR} {r0 : ℕ} {f : Bool} {v : ℕ} (h : sr 1 (ellArg r0) = some (f, v)) :
    elligator sr ZETA r0 = some (ellOut r0 f v) := by
  unfold ellArg at h
  unfold elligator
  simp only []
  rw [h]
  rfl

theorem ellArg_lt (r0 : ℕ) : ellArg r0 < q := fmul_lt q_pos _ _
theorem ellF_lt (r0 : ℕ) (f : Bool) (v : ℕ) : ellF r0 f v < q := fadd_lt q_pos _ _
theorem ellT_lt (r0 : ℕ) (f : Bool) (v : ℕ) : ellT r0 f v < q := fsub_lt q_pos _ _

@[fq] theorem cast_ellArg (r0 : ℕ) :
    ((ellArg r0 : ℕ) : Fq) = ellNum params ((ZETA : Fq) * (r0 : Fq) ^ 2) * ellDen params ((ZETA : Fq) * (r0 : Fq) ^ 2) := by
  simp only [ellArg, ellNum, ellDen, fq]
  ring

theorem ellArg_ne_zero (r0 : ℕ) : ellArg r0 ≠ 0 := by
  rw [Ne, ← cast_eq_zero_iff (ellArg_lt r0), cast_ellArg]
  exact mul_ne_zero (ellNum_ne_zero ellHyp _) (ellDen_ne_zero ellHyp _)

theorem cast_ellOut (r0 : ℕ) (f : Bool) (v : ℕ) :
    (((ellOut r0 f v).X : Fq), ((ellOut r0 f v).Y : Fq), ((ellOut r0 f v).Z : Fq), ((ellOut r0 f v).T : Fq)) =
      elligatorFA params paritySign (ZETA : Fq) (r0 : Fq) f (v : Fq) := by
  simp only [ellOut, ellE, ellF, ellG, ellS, ellT, elligatorFA, ellNum, isNeg_eq, fq, canon, beq_iff_eq]
  rfl

theorem ellOut_spec (r0 : ℕ) {f : Bool} {v : ℕ} (hA : IsqrtAns (ZETA : Fq) (ellArg r0 : Fq) f (v : Fq)) :
    ∃ pt : E, ERepr (ellOut r0 f v) pt ∧ ElligatorTo params paritySign ((ZETA : ℕ) : Fq) (r0 : Fq) pt.x pt.y ∧
      Point.IsEven pt := by
  rw [cast_ellArg] at hA
  obtain ⟨x, y, hrep, hspec, hon, hev⟩ := elligatorFA_spec (S := paritySign) ellHyp (r0 : Fq) hA
  rw [← cast_ellOut] at hrep
  exact ⟨⟨x, y, hon⟩, hrep, hspec, hev⟩

theorem hashToCurve_some {sr : SR} {zeta r1 r2 : ℕ} {add : Ext → Ext → Ext} {c1 c2 : Ext}
    (h1 : elligator sr zeta r1 = some c1) (h2 : elligator sr zeta r2 = some c2) :
    hashToCurve sr zeta add r1 r2 = some (add c1 c2) := by
  unfold hashToCurve; rw [h1, h2]; rfl

end Model
