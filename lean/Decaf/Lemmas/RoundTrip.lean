/-
Consequences of `Spec/Encoding` for the executable model on field elements, for every square-root routine `sr` meeting
the contract: what `decodeField` accepts and returns, what `Ext.encodeField` returns, decoding after encoding, and that
the specified encoding of an even point determines, and is determined by, its coset.  The theorems about byte strings
(`decode32`, `Ext.encode`), and encoding after decoding, are in Props/C01–C03.
-/
import Decaf.Lemmas.ModelEncoding
import Decaf.Lemmas.Bytes

namespace Model
open Edwards Decaf

theorem q_lt_two_pow_253 : q < 2 ^ 253 := by rw [q_val]; norm_num

theorem leBytes_toLeBytes_of_lt_q {s : ℕ} (hs : s < q) : leBytes (toLeBytes s 32) = s :=
  leBytes_toLeBytes s 32 (hs.trans (q_lt_two_pow_253.trans (by norm_num)))

variable {sr : SR}

/-- the specification relation, on the model's field -/
abbrev DecSpec (s : ℕ) (pt : E) : Prop := DecodesTo params paritySign ((s : ℕ) : Fq) pt.x pt.y
abbrev EncSpec (pt : E) (s : ℕ) : Prop := EncodesTo paritySign pt.x pt.y ((s : ℕ) : Fq)

theorem decodeField_spec (h : SRContract sr) (s : ℕ) (hs : s < q) :
    (decodeField sr s = .error .encoding ∧ ¬ ∃ pt : E, DecSpec s pt) ∨
    (∃ c pt, decodeField sr s = .ok c ∧ ERepr c pt ∧ DecSpec s pt ∧ Point.IsEven pt ∧ c.X < q ∧ c.Z = 1) := by
  obtain ⟨f, v, hsr, -, hA⟩ := h.ans (decDen_lt s)
  rw [decodeField_of_sr hsr]
  cases hn : isNeg s
  · cases f
    · -- the specification decodes only where the routine's flag is set
      refine .inl ⟨rfl, fun ⟨pt, hpt⟩ => absurd (hA.flag.mpr (cast_decDen s ▸ hpt.den_isSquare)) (by simp)⟩
    · have hdec := decOut_spec hs hn hA
      exact .inr ⟨_, ⟨_, _, hdec.onCurve⟩, rfl, ofAffine_repr rfl rfl, hdec, hdec.isEven, fmul_lt q_pos _ _, rfl⟩
  · refine .inl ⟨rfl, fun ⟨pt, hpt, _⟩ => ?_⟩
    rw [← isNeg_eq hs, hn] at hpt
    exact absurd hpt (by simp)

theorem encodeField_spec (h : SRContract sr) {c : Ext} {pt : E} (hr : ERepr c pt) (he : Point.IsEven pt) :
    ∃ s, Ext.encodeField sr c = some s ∧ s < q ∧ EncSpec pt s := by
  obtain ⟨f, v, hsr, -, hA⟩ := h.ans (encDen_lt c)
  exact ⟨_, encodeField_of_sr hsr, encOut_lt c v, encOut_spec hr he fun _ => hA⟩

theorem Ext.encode_of_field {c : Ext} {s : ℕ} (hs : Ext.encodeField sr c = some s) :
    Ext.encode sr c = some (toLeBytes s 32) := by
  unfold Ext.encode; rw [hs]; rfl

/-- the specification determines the decoded point up to its coset (the two differ only at s = 0, where x = 0) -/
theorem decSpec_unique {s : ℕ} {p p' : E} (h : DecSpec s p) (h' : DecSpec s p') : Point.Coset p p' := by
  obtain ⟨hx, hy⟩ := DecodesTo.unique h h'
  rw [Point.coset_iff_coords]
  rcases hy with hy | ⟨hs0, hy⟩
  · exact Or.inl ⟨hx, hy⟩
  · right
    refine ⟨?_, hy⟩
    obtain ⟨_, t, _, _, hx1, _⟩ := h
    rw [hx, hx1, hs0, mul_zero, zero_div, neg_zero]

theorem EncSpec.decSpec {p : E} (he : Point.IsEven p) {s : ℕ} (h : EncSpec p s) :
    ∃ p0 : E, DecSpec s p0 ∧ Point.Coset p p0 := by
  obtain ⟨x, y, hd, hxy⟩ := h.decodesTo one_add_d_nonsquare p.on he
  exact ⟨⟨x, y, hd.onCurve⟩, hd, (Point.coset_iff_coords _ _).mpr hxy⟩

theorem decodeField_encodeField (h : SRContract sr) {c : Ext} {pt : E} (hr : ERepr c pt) (he : Point.IsEven pt) :
    ∃ s c' pt', Ext.encodeField sr c = some s ∧ s < q ∧ decodeField sr s = .ok c' ∧ c'.Z = 1 ∧ ERepr c' pt' ∧
      Point.Coset pt pt' := by
  obtain ⟨s, hs, hlt, hes⟩ := encodeField_spec h hr he
  obtain ⟨pt0, hd0, hc0⟩ := hes.decSpec he
  rcases decodeField_spec h s hlt with ⟨-, hno⟩ | ⟨c', pt', hdf, hr', hspec', -, -, hZ⟩
  · exact absurd ⟨pt0, hd0⟩ hno
  · exact ⟨s, c', pt', hs, hlt, hdf, hZ, hr', hc0.trans (decSpec_unique hd0 hspec')⟩

theorem encSpec_coset {p p' : E} (hc : Point.Coset p p') {s s' : ℕ} (hs : s < q) (hs' : s' < q)
    (h : EncSpec p s) (h' : EncSpec p' s') : s = s' := by
  apply eq_of_cast_eq hs hs'
  rcases hc with rfl | rfl
  · exact EncodesTo.unique h' h
  · have h2 : EncodesTo paritySign (p + Point.T2).x (p + Point.T2).y ((s : ℕ) : Fq) := by
      rw [Point.add_T2_x, Point.add_T2_y]; exact h.neg
    exact EncodesTo.unique h' h2

theorem coset_of_encSpec_eq {p p' : E} (he : Point.IsEven p) (he' : Point.IsEven p') {s : ℕ}
    (h : EncSpec p s) (h' : EncSpec p' s) : Point.Coset p p' := by
  obtain ⟨p0, hd, hc⟩ := h.decSpec he
  obtain ⟨p0', hd', hc'⟩ := h'.decSpec he'
  exact (hc.trans (decSpec_unique hd hd')).trans hc'.symm

end Model
