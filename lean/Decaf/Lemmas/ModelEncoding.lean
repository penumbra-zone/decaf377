/-
The executable encoder / decoder (`Model/Curve.lean`: `Ext.encodeField`, `decodeField`) against the field-generic
formulas of `Spec/Encoding.lean`, over `ZMod q` with the parity sign.

Each asks the square-root routine `sr` one question, `sr 1 (arg inp)`, and computes `out inp v` from the answer `(f, v)`;
(arg, out) = (`encDen`, `encOut`), (`decDen`, `decOut`) are defined here as functions on canonical naturals, with
  * the shape lemma  `N_of_sr : sr 1 (arg inp) = some (f, v) → N sr inp = … out inp v …`,
  * the casts        `cast_encDen`, `cast_encOut`, `cast_decDen`: in Fq they are `encDenF`, `encodeFA`, `decDenF`,
  * the specs        `encOut_spec`, `decOut_spec`: `Spec/Encoding` for an answer that is allowed (`IsqrtAns`).
A routine meeting the four-case contract `SRContract` gives an allowed answer (`SRContract.ans`); that is all the
theorems about encoding, decoding and Elligator use of it.
-/
import Decaf.Lemmas.ModelCurve
import Decaf.Spec.Encoding

namespace Model
open Edwards Decaf

-- `q` is a computed term (`Lit.limbsVal` of the generated limbs): irreducible here, so that no unifier or `simp` side check
-- on `ZMod q` starts evaluating it
attribute [local irreducible] q

theorem one_add_d_nonsquare : ¬ IsSquare (1 + params.d) := by
  simpa only [fq] using not_isSquare_of_powMod (a := fadd q 1 cD) (by rw [cD_eq]; decide +kernel)

theorem zeta_half_pow : powMod ZETA ((q - 1) / 2) q = q - 1 := by decide +kernel

theorem zeta_nonsquare : ¬ IsSquare ((ZETA : ℕ) : Fq) := not_isSquare_of_powMod zeta_half_pow

theorem zeta_ne_zero : ((ZETA : ℕ) : Fq) ≠ 0 := fun h0 => zeta_nonsquare (h0 ▸ IsSquare.zero)

theorem zeta_lt : ZETA < q := by decide +kernel
theorem zeta_min_eq : ZETA_min = ZETA := by decide +kernel

theorem q_odd : q % 2 = 1 := prime_q.eq_two_or_odd.resolve_left q_gt_two.ne'

/-- src/sign.rs on `ZMod q`: negative = odd canonical representative -/
def paritySign : Sign Fq where
  neg z := z.val % 2 == 1
  neg_zero := by simp
  neg_neg z hz := by
    have hv : z.val ≠ 0 := by rwa [Ne, ZMod.val_eq_zero]
    have hlt : z.val < q := ZMod.val_lt z
    rw [ZMod.neg_val]
    simp only [hz, if_false]
    have := q_odd
    rcases Nat.mod_two_eq_zero_or_one z.val with h | h
    · have : (q - z.val) % 2 = 1 := by omega
      simp [h, this]
    · have : (q - z.val) % 2 = 0 := by omega
      simp [h, this]

theorem isNeg_eq {a : ℕ} (ha : a < q) : isNeg a = paritySign.neg (a : Fq) := by
  unfold isNeg paritySign
  simp only [ZMod.val_natCast_of_lt ha]

theorem fabs_lt (a : ℕ) (ha : a < q) : fabs a < q := by
  unfold fabs; split
  · exact fneg_lt q_pos a
  · exact ha

theorem cast_fabs {a : ℕ} (ha : a < q) : ((fabs a : ℕ) : Fq) = paritySign.abs (a : Fq) := by
  unfold fabs Sign.abs
  rw [isNeg_eq ha]
  split <;> simp

structure SRContract (sr : SR) : Prop where
  total : ∀ n d, n < q → d < q → ∃ f y, sr n d = some (f, y) ∧ y < q
  num_zero : ∀ d f y, d < q → sr 0 d = some (f, y) → f = true ∧ y = 0
  den_zero : ∀ n f y, n < q → n ≠ 0 → sr n 0 = some (f, y) → f = false ∧ y = 0
  square : ∀ n d f y, n < q → d < q → n ≠ 0 → d ≠ 0 → sr n d = some (f, y) → IsSquare ((n : Fq) / (d : Fq)) →
    f = true ∧ (y : Fq) ^ 2 * (d : Fq) = (n : Fq)
  nonsquare : ∀ n d f y, n < q → d < q → n ≠ 0 → d ≠ 0 → sr n d = some (f, y) → ¬ IsSquare ((n : Fq) / (d : Fq)) →
    f = false ∧ (y : Fq) ^ 2 * (d : Fq) = (ZETA : Fq) * (n : Fq)

/-- what the proof of a routine delivers: the two early returns and, on non-zero operands, a flag that decides
squareness together with the root equation -/
theorem SRContract.of_main {sr : SR} (h0 : ∀ d, sr 0 d = some (true, 0)) (hd0 : ∀ n, n ≠ 0 → sr n 0 = some (false, 0))
    (main : ∀ n d, n < q → d < q → n ≠ 0 → d ≠ 0 → ∃ f y, sr n d = some (f, y) ∧ y < q ∧
      (f = true ↔ IsSquare ((n : Fq) / (d : Fq))) ∧ (y : Fq) ^ 2 * (d : Fq) = if f then (n : Fq) else (ZETA : Fq) * (n : Fq)) :
    SRContract sr where
  total n d hn hd := by
    by_cases hn0 : n = 0
    · exact ⟨true, 0, by rw [hn0, h0], q_pos⟩
    by_cases hd' : d = 0
    · exact ⟨false, 0, by rw [hd', hd0 n hn0], q_pos⟩
    obtain ⟨f, y, h, hy, _⟩ := main n d hn hd hn0 hd'
    exact ⟨f, y, h, hy⟩
  num_zero d f y _ h := by rw [h0] at h; cases h; exact ⟨rfl, rfl⟩
  den_zero n f y _ hn0 h := by rw [hd0 n hn0] at h; cases h; exact ⟨rfl, rfl⟩
  square n d f y hn hd hn0 hd' h hsq := by
    obtain ⟨f', y', h', _, hf, hy⟩ := main n d hn hd hn0 hd'
    cases h'.symm.trans h
    rw [hf.mpr hsq] at hy ⊢
    exact ⟨rfl, hy⟩
  nonsquare n d f y hn hd hn0 hd' h hns := by
    obtain ⟨f', y', h', _, hf, hy⟩ := main n d hn hd hn0 hd'
    cases h'.symm.trans h
    rw [Bool.eq_false_iff.mpr (mt hf.mp hns)] at hy ⊢
    exact ⟨rfl, hy⟩

theorem SRContract.agree {sr sr' : SR} (h : SRContract sr) (h' : SRContract sr') {n d : ℕ} (hn : n < q) (hd : d < q) :
    ∃ f y y', sr n d = some (f, y) ∧ sr' n d = some (f, y') ∧ (y : Fq) ^ 2 * (d : Fq) = (y' : Fq) ^ 2 * (d : Fq) := by
  obtain ⟨f, y, h1, _⟩ := h.total n d hn hd
  obtain ⟨f', y', h2, _⟩ := h'.total n d hn hd
  by_cases hn0 : n = 0
  · subst hn0
    obtain ⟨rfl, rfl⟩ := h.num_zero d f y hd h1
    obtain ⟨rfl, rfl⟩ := h'.num_zero d f' y' hd h2
    exact ⟨true, 0, 0, h1, h2, rfl⟩
  by_cases hd0 : d = 0
  · subst hd0
    obtain ⟨rfl, rfl⟩ := h.den_zero n f y hn hn0 h1
    obtain ⟨rfl, rfl⟩ := h'.den_zero n f' y' hn hn0 h2
    exact ⟨false, 0, 0, h1, h2, rfl⟩
  by_cases hsq : IsSquare ((n : Fq) / (d : Fq))
  · obtain ⟨rfl, e1⟩ := h.square n d f y hn hd hn0 hd0 h1 hsq
    obtain ⟨rfl, e2⟩ := h'.square n d f' y' hn hd hn0 hd0 h2 hsq
    exact ⟨true, y, y', h1, h2, by rw [e1, e2]⟩
  · obtain ⟨rfl, e1⟩ := h.nonsquare n d f y hn hd hn0 hd0 h1 hsq
    obtain ⟨rfl, e2⟩ := h'.nonsquare n d f' y' hn hd hn0 hd0 h2 hsq
    exact ⟨false, y, y', h1, h2, by rw [e1, e2]⟩

theorem SRContract.ans {sr : SR} (h : SRContract sr) {d : ℕ} (hd : d < q) :
    ∃ f v, sr 1 d = some (f, v) ∧ v < q ∧ IsqrtAns (ZETA : Fq) (d : Fq) f (v : Fq) := by
  obtain ⟨f, v, hs, hv⟩ := h.total 1 d one_lt_q hd
  have hd0 : (d : Fq) ≠ 0 → d ≠ 0 := mt (cast_eq_zero_iff hd).mpr
  refine ⟨f, v, hs, hv, fun h0 => ?_, fun h0 hsq => ?_, fun h0 hsq => ?_⟩
  · obtain rfl := (cast_eq_zero_iff hd).mp h0
    obtain ⟨rfl, rfl⟩ := h.den_zero 1 f v one_lt_q one_ne_zero hs
    exact ⟨rfl, Nat.cast_zero⟩
  · have := h.square 1 d f v one_lt_q hd one_ne_zero (hd0 h0) hs (by rwa [Nat.cast_one, one_div, isSquare_inv])
    rwa [Nat.cast_one] at this
  · have := h.nonsquare 1 d f v one_lt_q hd one_ne_zero (hd0 h0) hs (by rwa [Nat.cast_one, one_div, isSquare_inv])
    rwa [Nat.cast_one, mul_one] at this

/-! The kernel must never be asked to compare two `match`/`if` terms whose discriminants are symbolic field expressions
(it would unfold `%` on open terms); the shape lemmas (`encodeField_of_sr`, and `decodeField_of_sr`, `elligator_of_sr`
like it) therefore first rewrite the discriminant through a hypothesis about an opaque routine `sr`, and only then close
by `rfl`. -/

def encDen (c : Ext) : ℕ :=
  fmul q (fmul q (fmul q (fadd q c.X c.T) (fsub q c.X c.T)) (fsub q cA cD)) (fsq q c.X)

def encOut (c : Ext) (v : ℕ) : ℕ :=
  fabs (fmul q (fmul q (fmul q (fsub q cA cD) v)
    (fsub q (fmul q (fabs (fmul q v (fmul q (fadd q c.X c.T) (fsub q c.X c.T)))) c.Z) c.T)) c.X)

theorem encodeField_of_sr {sr : SR} {c : Ext} {f : Bool} {v : ℕ} (h : sr 1 (encDen c) = some (f, v)) :
    Ext.encodeField sr c = some (encOut c v) := by
  unfold encDen at h
  unfold Ext.encodeField
  simp only []
  rw [h]
  rfl

theorem encDen_lt (c : Ext) : encDen c < q := fmul_lt q_pos _ _
theorem encOut_lt (c : Ext) (v : ℕ) : encOut c v < q := fabs_lt _ (fmul_lt q_pos _ _)

@[fq] theorem cast_encDen (c : Ext) : ((encDen c : ℕ) : Fq) = encDenF params (c.X : Fq) (c.T : Fq) := by
  simp only [encDen, encDenF, fq]

@[fq] theorem cast_encOut (c : Ext) (v : ℕ) :
    ((encOut c v : ℕ) : Fq) = encodeFA params paritySign (v : Fq) (c.X : Fq) (c.Z : Fq) (c.T : Fq) := by
  simp only [encOut, encodeFA, cast_fabs, fq, canon]

/-- on a representative of an even point, an answer that is allowed wherever the argument is non-zero makes the
encoder's formula the specified encoding -/
theorem encOut_spec {c : Ext} {pt : E} (hr : ERepr c pt) (he : Point.IsEven pt) {f : Bool} {v : ℕ}
    (hA : encDen c ≠ 0 → IsqrtAns (ZETA : Fq) (encDen c : Fq) f (v : Fq)) :
    EncodesTo paritySign pt.x pt.y ((encOut c v : ℕ) : Fq) := by
  rw [Ne, ← cast_eq_zero_iff (encDen_lt c), cast_encDen] at hA
  rw [cast_encOut]
  exact encodeFA_spec one_add_d_nonsquare hr pt.on he hA

def decDen (s : ℕ) : ℕ :=
  fmul q (fsub q (fsq q (fsub q 1 (fsq q s))) (fmul q (fmul q 4 cD) (fsq q s))) (fsq q (fsub q 1 (fsq q s)))

def decOut (s v : ℕ) : ℕ × ℕ :=
  let u1 := fsub q 1 (fsq q s)
  let twoSU1 := fmul q (fmul q 2 s) u1
  let v := if isNeg (fmul q twoSU1 v) then fneg q v else v
  (fmul q (fmul q twoSU1 (fsq q v)) (fsub q (fsq q u1) (fmul q (fmul q 4 cD) (fsq q s))),
   fmul q (fmul q (fadd q 1 (fsq q s)) v) u1)

theorem decodeField_of_sr {sr : SR} {s : ℕ} {f : Bool} {v : ℕ} (h : sr 1 (decDen s) = some (f, v)) :
    decodeField sr s = if isNeg s || !f then .error .encoding else .ok (Ext.ofAffine (decOut s v)) := by
  unfold decDen at h
  unfold decodeField
  simp only []
  rw [h]
  cases isNeg s <;> cases f <;> rfl

theorem decDen_lt (s : ℕ) : decDen s < q := fmul_lt q_pos _ _

@[fq] theorem cast_decDen (s : ℕ) : ((decDen s : ℕ) : Fq) = decDenF params (s : Fq) := by
  simp only [decDen, decDenF, u2, fq]

theorem decOut_spec {s v : ℕ} (hs : s < q) (hn : isNeg s = false) (hA : IsqrtAns (ZETA : Fq) (decDen s : Fq) true (v : Fq)) :
    DecodesTo params paritySign (s : Fq) ((decOut s v).1 : Fq) ((decOut s v).2 : Fq) := by
  have hv := hA.root rfl
  rw [cast_decDen] at hv
  have := decodes_of_root (P := params) (S := paritySign) (by rwa [← isNeg_eq hs]) hv
  simpa only [decOut, isNeg_eq, fq, canon] using this

end Model
