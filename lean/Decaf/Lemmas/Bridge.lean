/-
Bridge between the executable model (canonical naturals, explicit `% m`) and `ZMod m`.
Every model primitive casts to the corresponding field operation; canonical values are determined by their cast;
Euler's criterion is restated with the exponent the code evaluates.
-/
import Mathlib.Data.ZMod.Basic
import Mathlib.FieldTheory.Finite.Basic
import Mathlib.NumberTheory.LegendreSymbol.Basic
import Mathlib.Tactic.Ring
import Mathlib.Tactic.FieldSimp
import Mathlib.Tactic.LinearCombination
import Decaf.Lemmas.PowMod
import Decaf.Lemmas.SimpAttr
import Decaf.Lemmas.Primes

namespace Model

variable {m : ℕ}

@[simp, fq] theorem cast_fadd (a b : ℕ) : ((fadd m a b : ℕ) : ZMod m) = a + b := by
  simp [fadd]

@[simp, fq] theorem cast_fmul (a b : ℕ) : ((fmul m a b : ℕ) : ZMod m) = a * b := by
  simp [fmul]

@[simp, fq] theorem cast_fsq (a : ℕ) : ((fsq m a : ℕ) : ZMod m) = (a : ZMod m) ^ 2 := by
  simp [fsq, sq]

theorem cast_sub_mod [NeZero m] (b : ℕ) : ((m - b % m : ℕ) : ZMod m) = -b := by
  rw [Nat.cast_sub (Nat.mod_lt b (NeZero.pos m)).le, ZMod.natCast_self, ZMod.natCast_mod, zero_sub]

@[simp, fq] theorem cast_fneg [NeZero m] (a : ℕ) : ((fneg m a : ℕ) : ZMod m) = -a := by
  rw [fneg, ZMod.natCast_mod, cast_sub_mod]

@[simp, fq] theorem cast_fsub [NeZero m] (a b : ℕ) : ((fsub m a b : ℕ) : ZMod m) = a - b := by
  rw [fsub, ZMod.natCast_mod, Nat.cast_add, cast_sub_mod, sub_eq_add_neg]

attribute [fq] Nat.cast_zero Nat.cast_one Nat.cast_ofNat Nat.cast_ite cast_powMod

@[simp, fq] theorem cast_fpow (a e : ℕ) : ((fpow m a e : ℕ) : ZMod m) = (a : ZMod m) ^ e := by
  simp [fpow, cast_powMod]

theorem cast_finv [Fact m.Prime] (hm : 2 < m) (a : ℕ) : ((finv m a : ℕ) : ZMod m) = (a : ZMod m)⁻¹ := by
  rw [finv, cast_powMod]
  rcases eq_or_ne (a : ZMod m) 0 with h | h
  · rw [h, inv_zero, zero_pow (by omega)]
  · -- Fermat: a^(m-2) · a = 1
    exact eq_inv_of_mul_eq_one_left (by rw [← pow_succ, show m - 2 + 1 = m - 1 by omega, ZMod.pow_card_sub_one_eq_one h])

theorem cast_fdiv [Fact m.Prime] (hm : 2 < m) (a b : ℕ) : ((fdiv m a b : ℕ) : ZMod m) = (a : ZMod m) / b := by
  simp [fdiv, cast_finv hm, div_eq_mul_inv]

@[canon] theorem fadd_lt (hm : 0 < m) (a b : ℕ) : fadd m a b < m := Nat.mod_lt _ hm
@[canon] theorem fsub_lt (hm : 0 < m) (a b : ℕ) : fsub m a b < m := Nat.mod_lt _ hm
@[canon] theorem fneg_lt (hm : 0 < m) (a : ℕ) : fneg m a < m := Nat.mod_lt _ hm
@[canon] theorem fmul_lt (hm : 0 < m) (a b : ℕ) : fmul m a b < m := Nat.mod_lt _ hm
@[canon] theorem fsq_lt (hm : 0 < m) (a : ℕ) : fsq m a < m := Nat.mod_lt _ hm
@[canon] theorem finv_lt (hm : 1 < m) (a : ℕ) : finv m a < m := powMod_lt _ _ _ hm

theorem cast_inj {a b : ℕ} (ha : a < m) (hb : b < m) : (a : ZMod m) = (b : ZMod m) ↔ a = b := by
  rw [ZMod.natCast_eq_natCast_iff', Nat.mod_eq_of_lt ha, Nat.mod_eq_of_lt hb]

theorem eq_of_cast_eq {a b : ℕ} (ha : a < m) (hb : b < m) (h : (a : ZMod m) = (b : ZMod m)) : a = b :=
  (cast_inj ha hb).mp h

theorem cast_eq_zero_iff {a : ℕ} (ha : a < m) : (a : ZMod m) = 0 ↔ a = 0 := by
  rw [← cast_inj ha (Nat.zero_lt_of_lt ha), Nat.cast_zero]

theorem beq_iff_cast {a b : ℕ} (ha : a < m) (hb : b < m) : (a == b) = true ↔ (a : ZMod m) = (b : ZMod m) := by
  rw [beq_iff_eq, cast_inj ha hb]

theorem bne_zero_iff_cast {a : ℕ} (ha : a < m) : (a != 0) = true ↔ (a : ZMod m) ≠ 0 := by
  rw [bne_iff_ne, Ne, Ne, cast_eq_zero_iff ha]

/-! ### Euler's criterion with the exponent `(m - 1) / 2` that the code and its constants use (Mathlib's has `m / 2`) -/

theorem neg_one_ne_one (hm : 2 < m) : (-1 : ZMod m) ≠ 1 :=
  haveI : Fact (2 < m) := ⟨hm⟩; ZMod.neg_one_ne_one

section
variable [Fact m.Prime]

theorem half_eq (hm : 2 < m) : m / 2 = (m - 1) / 2 := by
  have := (Fact.out : m.Prime).eq_two_or_odd
  omega

theorem euler' (hm : 2 < m) {a : ZMod m} (ha : a ≠ 0) : IsSquare a ↔ a ^ ((m - 1) / 2) = 1 := by
  rw [← half_eq hm]; exact ZMod.euler_criterion m ha

theorem pow_half_eq_neg_one (hm : 2 < m) {a : ZMod m} (ha : a ≠ 0) (hns : ¬ IsSquare a) : a ^ ((m - 1) / 2) = -1 := by
  rw [← half_eq hm]
  exact (ZMod.pow_div_two_eq_neg_one_or_one m ha).resolve_left (mt (ZMod.euler_criterion m ha).mpr hns)

end

@[canon] theorem q_pos : 0 < q := prime_q.pos
@[canon] theorem one_lt_q : 1 < q := prime_q.one_lt
theorem q_val : q = 8444461749428370424248824938781546531375899335154063827935233455917409239041 := by decide +kernel
theorem r_val : r = 2111115437357092606062206234695386632838870926408408195193685246394721360383 := by decide +kernel

theorem q_gt_two : 2 < q := by rw [q_val]; norm_num

@[fq] theorem cast_finv_q (a : ℕ) : ((finv q a : ℕ) : ZMod q) = (a : ZMod q)⁻¹ := cast_finv q_gt_two a

end Model
