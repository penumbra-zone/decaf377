/-
arkworks' generic `Field::sqrt` as driven by the repository's constants (`SQRT_PRECOMP`): the Tonelli–Shanks variant
(`sqrtTS`, used for Fq and Fp) and the p ≡ 3 (mod 4) shortcut (`sqrt3Mod4`, used for Fr) agree with Euler's criterion:
a root of every square, `None` for every non-square, within the modelled fuel (so the loops terminate).
Generic over the prime modulus; instantiated with the translated constants in Props/C09.
-/
import Decaf.Lemmas.TonelliShanks

namespace Model

variable {m : ℕ} [Fact m.Prime]

theorem not_beq_one_of_pow_eq_neg_one (hm : 2 < m) {b K : ℕ} (hb : b < m) (h : (b : ZMod m) ^ 2 ^ K = -1) :
    ¬ (b == 1 % m) = true := by
  rw [beq_one_iff hb]
  intro h1
  rw [h1, one_pow] at h
  exact neg_one_ne_one hm h.symm

theorem findK_of_neg_one (hm : 2 < m) : ∀ (K fuel b k₀ : ℕ), b < m → K + 1 < fuel → (b : ZMod m) ^ 2 ^ K = -1 →
    findK m fuel b k₀ = some (K + 1 + k₀) := by
  intro K
  induction K with
  | zero =>
    intro fuel b k₀ hb hf h
    obtain ⟨f, rfl⟩ : ∃ f, fuel = f + 2 := ⟨fuel - 2, by omega⟩
    have hsq : ((fmul m b b : ℕ) : ZMod m) = 1 := by
      rw [pow_zero, pow_one] at h
      rw [cast_fmul, h, neg_mul_neg, one_mul]
    rw [findK, if_neg (not_beq_one_of_pow_eq_neg_one hm hb h), findK,
      if_pos ((beq_one_iff (fmul_lt (by omega) _ _)).mpr hsq), Nat.add_comm]
  | succ K ih =>
    intro fuel b k₀ hb hf h
    obtain ⟨f, rfl⟩ : ∃ f, fuel = f + 1 := ⟨fuel - 1, by omega⟩
    rw [findK, if_neg (not_beq_one_of_pow_eq_neg_one hm hb h), ih f _ (k₀ + 1) (fmul_lt (by omega) _ _) (by omega)
      (by rw [cast_fmul, ← sq, ← pow_mul, ← pow_succ']; exact h)]
    congr 1
    omega

theorem exists_two_pow_eq_neg_one {F : Type*} [Field F] {b : F} : ∀ {n : ℕ}, b ^ 2 ^ n = 1 → b = 1 ∨ ∃ K < n, b ^ 2 ^ K = -1
  | 0, h => .inl (by rwa [pow_zero, pow_one] at h)
  | n + 1, h => by
    rw [pow_succ, pow_mul, sq_eq_one_iff] at h
    rcases h with h | h
    · exact (exists_two_pow_eq_neg_one h).imp_right fun ⟨K, hK, hb⟩ => ⟨K, Nat.lt_succ_of_lt hK, hb⟩
    · exact .inr ⟨n, Nat.lt_succ_self n, h⟩

theorem tsLoop_square (hm : 2 < m) (s : ℕ) (a : ZMod m) :
    ∀ (v fuel z x b : ℕ), v ≤ s → v < fuel → TSInv m a v x b z →
      ∃ x', tsLoop m s fuel z x b v = some (some x') ∧ x' < m ∧ (x' : ZMod m) ^ 2 = a := by
  intro v
  induction v using Nat.strong_induction_on with
  | _ v ih =>
    intro fuel z x b hvs hvf hI
    obtain ⟨f, rfl⟩ : ∃ f, fuel = f + 1 := ⟨fuel - 1, by omega⟩
    unfold tsLoop
    rcases exists_two_pow_eq_neg_one hI.b_pow with hb1 | ⟨K, hK, hbK⟩
    · rw [if_pos ((beq_one_iff hI.b_lt).mpr hb1)]
      exact ⟨x, rfl, hI.x_lt, by rw [hI.sq, hb1, mul_one]⟩
    · -- the search returns `k = K + 1 < v`, and the state after the step satisfies the invariant at level `k`
      have hfind : findK m (s + 2) b 0 = some (K + 1) := findK_of_neg_one hm K (s + 2) b 0 hI.b_lt (by omega) hbK
      have hks : (K + 1 == s) = false := by rw [beq_eq_false_iff_ne]; omega
      simp only [if_neg (not_beq_one_of_pow_eq_neg_one hm hI.b_lt hbK), hfind, hks, Bool.false_eq_true, if_false]
      exact ih (K + 1) (by omega) f _ _ _ (by omega) (by omega)
        (ts_step (k := K + 1) hI (by omega) (by omega) (cast_iterSq m _ _) hbK)

theorem tsLoop_nonsquare (hm : 2 < m) (s : ℕ) (hs : 1 ≤ s) (fuel z x b : ℕ) (hf : 0 < fuel) (hb : b < m)
    (hneg : (b : ZMod m) ^ (2 ^ (s - 1)) = -1) : tsLoop m s fuel z x b s = some none := by
  obtain ⟨f, rfl⟩ : ∃ f, fuel = f + 1 := ⟨fuel - 1, by omega⟩
  have hfind : findK m (s + 2) b 0 = some s := by
    rw [findK_of_neg_one hm (s - 1) (s + 2) b 0 hb (by omega) hneg, Nat.add_zero, Nat.sub_add_cancel hs]
  rw [tsLoop, if_neg (not_beq_one_of_pow_eq_neg_one hm hb hneg), hfind]
  simp only [beq_self_eq_true, if_true]

/-- **arkworks' Tonelli–Shanks agrees with Euler's criterion** for any prime modulus m = 2^s·t + 1 (t odd), any
`zq` with zq^(2^(s-1)) = -1 and exponent limbs denoting (t-1)/2 -/
theorem sqrtTS_spec (hm : 2 < m) (s t zq : ℕ) (e : List ℕ) (hs : 1 ≤ s) (hmt : m - 1 = 2 ^ s * t)
    (he : ∀ l ∈ e, l < 2 ^ 64) (het : 2 * Lit.ofLimbs 64 e + 1 = t) (hz : (zq : ZMod m) ^ (2 ^ (s - 1)) = -1) {a : ℕ} (ha : a < m) :
    (IsSquare (a : ZMod m) → ∃ x, sqrtTS m s zq e a = some (some x) ∧ x < m ∧ (x : ZMod m) ^ 2 = (a : ZMod m)) ∧
    (¬ IsSquare (a : ZMod m) → sqrtTS m s zq e a = some none) := by
  have hm0 : 0 < m := by omega
  rw [sqrtTS]
  by_cases ha0 : a = 0
  · subst ha0
    exact ⟨fun _ => ⟨0, rfl, hm0, by simp⟩, fun h => absurd ⟨0, by simp⟩ h⟩
  · rw [if_neg (by simpa using ha0)]
    simp only []
    have haq : (a : ZMod m) ≠ 0 := by rwa [Ne, cast_eq_zero_iff ha]
    have hwc := cast_powLeLimbs m a e he
    generalize powLeLimbs m a e = w at hwc ⊢
    -- with `E` the exponent: `w = a^E`, `x = w·a = a^(E+1)`, `b = x·w = a^t`; so `x² = a·b` and `b^(2^(s-1)) = a^((m-1)/2)`
    have hbc : ((fmul m (fmul m w a) w : ℕ) : ZMod m) = (a : ZMod m) ^ t := by
      rw [cast_fmul, cast_fmul, hwc, ← pow_succ, ← pow_add, ← het]; congr 1; ring
    have hI1 : ((fmul m w a : ℕ) : ZMod m) ^ 2 = (a : ZMod m) * ((fmul m (fmul m w a) w : ℕ) : ZMod m) := by
      rw [hbc, cast_fmul, hwc, ← het]; ring
    have hbpow : ((fmul m (fmul m w a) w : ℕ) : ZMod m) ^ (2 ^ (s - 1)) = (a : ZMod m) ^ ((m - 1) / 2) := by
      rw [hbc, ← pow_mul, hmt, ← Nat.sub_add_cancel hs, pow_succ, Nat.add_sub_cancel, Nat.mul_right_comm,
        Nat.mul_div_cancel _ two_pos, Nat.mul_comm]
    constructor
    · intro hsq
      obtain ⟨x', hx', hlt, hsq'⟩ := tsLoop_square hm s (a : ZMod m) s (s + 2) zq _ _ le_rfl (by omega)
        ⟨fmul_lt hm0 _ _, fmul_lt hm0 _ _, hI1, by rw [hbpow, (euler' hm haq).mp hsq], hz⟩
      rw [hx']
      exact ⟨x', if_pos ((beq_iff_cast (fmul_lt hm0 _ _) ha).mpr (by rw [cast_fmul, ← sq, hsq'])), hlt, hsq'⟩
    · intro hns
      rw [tsLoop_nonsquare hm s hs (s + 2) zq _ _ (by omega) (fmul_lt hm0 _ _) (by rw [hbpow, pow_half_eq_neg_one hm haq hns])]

/-- `sqrtTS_spec` with its premises in the form the kernel evaluates on a translated `SQRT_PRECOMP` (`prm` its three
fields, `lit` the reading of a field literal): two-adicity, trace exponent, a `2^s`-th root of unity of full order -/
theorem sqrtTS_spec_of_params (prm : ℕ × Lit × List ℕ) (lit : Lit → ℕ)
    (h : 1 ≤ prm.1 ∧ m - 1 = 2 ^ prm.1 * (2 * Lit.ofLimbs 64 prm.2.2 + 1) ∧ (∀ l ∈ prm.2.2, l < 2 ^ 64) ∧
      powMod (lit prm.2.1) (2 ^ (prm.1 - 1)) m = m - 1 ∧ 2 < m) {a : ℕ} (ha : a < m) :
    (IsSquare (a : ZMod m) → ∃ x, sqrtTS m prm.1 (lit prm.2.1) prm.2.2 a = some (some x) ∧ x < m ∧ (x : ZMod m) ^ 2 = (a : ZMod m)) ∧
    (¬ IsSquare (a : ZMod m) → sqrtTS m prm.1 (lit prm.2.1) prm.2.2 a = some none) := by
  obtain ⟨h1, h2, h3, h4, h5⟩ := h
  exact sqrtTS_spec h5 _ _ _ _ h1 h2 h3 rfl (pow_eq_neg_one_of_powMod (by omega) h4) ha

theorem sqrt3Mod4_spec (hm : 2 < m) (e : List ℕ) (he : ∀ l ∈ e, l < 2 ^ 64) (hexp : 4 * Lit.ofLimbs 64 e = m + 1) {a : ℕ} (ha : a < m) :
    (IsSquare (a : ZMod m) → ∃ x, sqrt3Mod4 m e a = some x ∧ x < m ∧ (x : ZMod m) ^ 2 = (a : ZMod m)) ∧
    (¬ IsSquare (a : ZMod m) → sqrt3Mod4 m e a = none) := by
  have hm0 : 0 < m := by omega
  have hrc := cast_powLeLimbs m a e he
  have hrlt := powLeLimbs_lt m a (by omega) e
  rw [sqrt3Mod4]
  generalize powLeLimbs m a e = res at hrc hrlt ⊢
  -- `res = a^((m+1)/4)` squares to `a·a^((m-1)/2)`, which is `a` exactly when `a` is `0` or a square (Euler)
  have hsq : ((fmul m res res : ℕ) : ZMod m) = (a : ZMod m) * (a : ZMod m) ^ ((m - 1) / 2) := by
    rw [cast_fmul, hrc, ← pow_add, ← pow_succ']
    congr 1
    omega
  have hchk : (fmul m res res == a) = true ↔ IsSquare (a : ZMod m) := by
    rw [beq_iff_cast (fmul_lt hm0 _ _) ha, hsq]
    by_cases ha0 : (a : ZMod m) = 0
    · rw [ha0, zero_mul]
      exact iff_of_true rfl IsSquare.zero
    · rw [euler' hm ha0, mul_eq_left₀ ha0]
  refine ⟨fun h => ⟨res, if_pos (hchk.mpr h), hrlt, ?_⟩, fun h => if_neg (mt hchk.mp h)⟩
  rw [sq, ← cast_fmul]
  exact (beq_iff_cast (fmul_lt hm0 _ _) ha).mp (hchk.mpr h)

theorem legendre_spec (hm : 2 < m) (half : List ℕ) (hl : ∀ l ∈ half, l < 2 ^ 64) (hh : Lit.ofLimbs 64 half = (m - 1) / 2)
    {a : ℕ} (ha : a < m) :
    legendre m half a = if a = 0 then 0 else if IsSquare (a : ZMod m) then 1 else 2 := by
  by_cases ha0 : a = 0
  · rw [legendre, ha0]; rfl
  · rw [legendre, if_neg (by simpa using ha0), if_neg ha0]
    simp only [powLeLimbs_half_beq_one hm hl hh (mt (cast_eq_zero_iff ha).mp ha0)]

end Model
