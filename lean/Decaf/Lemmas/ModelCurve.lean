/-
The executable group model (`Model/Curve.lean`) refines the mathematical group (`Spec/*`):
extended-coordinate addition/doubling/negation of the minimal backend, the reference affine law of the arkworks
backend, the equality and identity tests, and both scalar-multiplication ladders.
-/
import Decaf.Lemmas.Bridge
import Decaf.Spec.Decaf
import Decaf.Spec.Extended
import Decaf.Model.Curve

namespace Model
open Edwards

abbrev Fq := ZMod q

instance : NeZero q := ⟨Nat.Prime.ne_zero prime_q⟩

/-- a square root of -1 in Fq: zeta^((q-1)/4) -/
def sqrtM1 : ℕ := powMod ZETA ((q - 1) / 4) q

theorem sqrtM1_sq : fmul q sqrtM1 sqrtM1 = q - 1 := by decide +kernel

theorem cD_eq : cD = 3021 := by decide +kernel
theorem cA_eq : cA = q - 1 := by decide +kernel
theorem cK_eq : cK = 6042 := by decide +kernel

theorem cast_q_sub_one : ((q - 1 : ℕ) : Fq) = -1 := by
  rw [Nat.cast_sub q_pos, ZMod.natCast_self, Nat.cast_one, zero_sub]

@[simp, fq] theorem cast_cA : (cA : Fq) = -1 := by rw [cA_eq, cast_q_sub_one]
@[simp, fq] theorem cast_cK : (cK : Fq) = 2 * (cD : Fq) := by rw [cK_eq, cD_eq]; norm_num

theorem not_isSquare_of_powMod {a : ℕ} (h : powMod a ((q - 1) / 2) q = q - 1) : ¬ IsSquare (a : Fq) := by
  have hp : (a : Fq) ^ ((q - 1) / 2) = -1 := pow_eq_neg_one_of_powMod q_pos h
  have ha : (a : Fq) ≠ 0 := by
    rintro h0
    rw [h0, zero_pow (by have := q_gt_two; omega)] at hp
    exact neg_ne_zero.mpr one_ne_zero hp.symm
  rw [euler' q_gt_two ha, hp]
  exact neg_one_ne_one q_gt_two

theorem d_nonsquare : ¬ IsSquare ((cD : ℕ) : Fq) := not_isSquare_of_powMod (by rw [cD_eq]; decide +kernel)

def params : Params Fq where
  d := (cD : Fq)
  c := (sqrtM1 : Fq)
  hc := by
    have := congrArg (Nat.cast : ℕ → Fq) sqrtM1_sq
    rw [cast_fmul, cast_q_sub_one] at this
    rw [sq]; exact this
  hd := d_nonsquare
  h2 := by
    intro h
    have h2' : ((2 : ℕ) : Fq) = 0 := by exact_mod_cast h
    rw [ZMod.natCast_eq_zero_iff] at h2'
    have := Nat.le_of_dvd (by norm_num) h2'
    have := q_gt_two; omega

@[fq] theorem params_d : params.d = (cD : Fq) := rfl

abbrev E := Point params

/-- the model quadruple `c` represents the curve point `pt` -/
def ERepr (c : Ext) (pt : E) : Prop := Repr (c.X : Fq) (c.Y : Fq) (c.Z : Fq) (c.T : Fq) pt.x pt.y

theorem identity_repr : ERepr Ext.identity 0 := by
  simpa only [ERepr, Ext.identity, fq, Point.zero_x, Point.zero_y, mul_one] using repr_affine (x := (0 : Fq)) (y := 1)

theorem addMin_repr {c1 c2 : Ext} {p1 p2 : E} (h1 : ERepr c1 p1) (h2 : ERepr c2 p2) :
    ERepr (Ext.addMin c1 c2) (p1 + p2) := by
  simpa only [ERepr, Ext.addMin, fq, Point.add_x, Point.add_y] using hwcd_add params h1 h2 p1.on p2.on (cK : Fq) cast_cK

theorem doubleMin_repr {c : Ext} {pt : E} (h : ERepr c pt) : ERepr (Ext.doubleMin c) (pt + pt) := by
  simpa only [ERepr, Ext.doubleMin, fq, Point.add_x, Point.add_y] using hwcd_double params h pt.on

theorem neg_repr {c : Ext} {pt : E} (h : ERepr c pt) : ERepr (Ext.neg c) (-pt) := by
  simpa only [ERepr, Ext.neg, fq, Point.neg_x, Point.neg_y] using repr_neg h

theorem subMin_repr {c1 c2 : Ext} {p1 p2 : E} (h1 : ERepr c1 p1) (h2 : ERepr c2 p2) :
    ERepr (Ext.subMin c1 c2) (p1 - p2) := by
  rw [sub_eq_add_neg]; exact addMin_repr h1 (neg_repr h2)

theorem affine_cast {c : Ext} {pt : E} (h : ERepr c pt) :
    ((c.affine.1 : ℕ) : Fq) = pt.x ∧ ((c.affine.2 : ℕ) : Fq) = pt.y := by
  simpa only [Ext.affine, fq] using repr_div h

theorem affine_of_Z_one {c : Ext} {pt : E} (h : ERepr c pt) (hZ : c.Z = 1) : (c.X : Fq) = pt.x ∧ (c.Y : Fq) = pt.y := by
  have hx := h.hx
  have hy := h.hy
  rw [hZ, Nat.cast_one, mul_one] at hx hy
  exact ⟨hx, hy⟩

theorem ofAffine_repr {x y : ℕ} {pt : E} (hx : (x : Fq) = pt.x) (hy : (y : Fq) = pt.y) :
    ERepr (Ext.ofAffine (x, y)) pt := by
  simpa only [ERepr, Ext.ofAffine, fq, hx, hy] using repr_affine (x := pt.x) (y := pt.y)

theorem addAffine_cast {a b : ℕ × ℕ} {p1 p2 : E} (ha : (a.1 : Fq) = p1.x ∧ (a.2 : Fq) = p1.y)
    (hb : (b.1 : Fq) = p2.x ∧ (b.2 : Fq) = p2.y) :
    (((Ext.addAffine a b).1 : ℕ) : Fq) = (p1 + p2).x ∧ (((Ext.addAffine a b).2 : ℕ) : Fq) = (p1 + p2).y := by
  obtain ⟨a1, a2⟩ := a
  obtain ⟨b1, b2⟩ := b
  simp only at ha hb
  unfold Ext.addAffine
  simp only [fq, ha.1, ha.2, hb.1, hb.2, Point.add_x, Point.add_y, addX, addY, div_eq_mul_inv]
  constructor <;> ring

/-- the reference law, as the arkworks backend is modelled -/
theorem addRef_repr {c1 c2 : Ext} {p1 p2 : E} (h1 : ERepr c1 p1) (h2 : ERepr c2 p2) :
    ERepr (Ext.addRef c1 c2) (p1 + p2) := by
  have := addAffine_cast (affine_cast h1) (affine_cast h2)
  unfold Ext.addRef
  exact ofAffine_repr this.1 this.2

theorem doubleRef_repr {c : Ext} {pt : E} (h : ERepr c pt) : ERepr (Ext.doubleRef c) (pt + pt) :=
  addRef_repr h h

theorem subRef_repr {c1 c2 : Ext} {p1 p2 : E} (h1 : ERepr c1 p1) (h2 : ERepr c2 p2) :
    ERepr (Ext.subRef c1 c2) (p1 - p2) := by
  rw [sub_eq_add_neg]; exact addRef_repr h1 (neg_repr h2)

theorem eq_iff_coset {c1 c2 : Ext} {p1 p2 : E} (h1 : ERepr c1 p1) (h2 : ERepr c2 p2) :
    Ext.eq c1 c2 = true ↔ Point.Coset p1 p2 := by
  -- cast to Fq, the test is the cross equation of the two points, times Z₁Z₂
  rw [← Point.cross_eq_iff_coset, ← mul_left_inj' (mul_ne_zero h1.z h2.z), Ext.eq,
    beq_iff_cast (fmul_lt q_pos _ _) (fmul_lt q_pos _ _), cast_fmul, cast_fmul, h1.hx, h1.hy, h2.hx, h2.hy]
  constructor <;> intro h <;> linear_combination h

theorem isIdentity_iff {c : Ext} {pt : E} (h : ERepr c pt) (hX : c.X < q) :
    Ext.isIdentity c = true ↔ Point.Coset 0 pt := by
  rw [Point.Coset, zero_add, ← Point.x_eq_zero_iff, Ext.isIdentity, beq_iff_eq, ← cast_eq_zero_iff hX, h.hx, mul_eq_zero,
    or_iff_left h.z]

/-- value of a little-endian bit list -/
def bitsVal : List Bool → ℕ
  | [] => 0
  | b :: bs => (if b then 1 else 0) + 2 * bitsVal bs

theorem bitsVal_limbBits (l n : ℕ) : bitsVal (limbBits l n) = l % 2 ^ n := by
  induction n generalizing l with
  | zero => simp [limbBits, bitsVal, Nat.mod_one]
  | succ n ih =>
    rw [limbBits, bitsVal, ih, pow_succ', Nat.mod_mul]
    rcases Nat.mod_two_eq_zero_or_one l with h | h <;> simp [h]

theorem limbBits_length (l n : ℕ) : (limbBits l n).length = n := by
  induction n generalizing l with
  | zero => rfl
  | succ n ih => simp [limbBits, ih]

theorem bitsVal_append (a b : List Bool) : bitsVal (a ++ b) = bitsVal a + 2 ^ a.length * bitsVal b := by
  induction a with
  | nil => simp [bitsVal]
  | cons x xs ih => simp only [List.cons_append, bitsVal, ih, List.length_cons, pow_succ]; ring

theorem bitsVal_limbsBits (limbs : List ℕ) (h : ∀ l ∈ limbs, l < 2 ^ 64) :
    bitsVal (limbsBits limbs) = Lit.ofLimbs 64 limbs := by
  induction limbs with
  | nil => rfl
  | cons l ls ih =>
    have hl := h l (List.mem_cons_self)
    have ih' := ih (fun x hx => h x (List.mem_cons_of_mem _ hx))
    unfold limbsBits at *
    simp only [List.flatMap_cons, bitsVal_append, limbBits_length, bitsVal_limbBits, Lit.ofLimbs, ih',
      Nat.mod_eq_of_lt hl]

/-- one round of LSB-first double-and-add, in any commutative group -/
theorem ladder_step {G : Type*} [AddCommGroup G] (R M : G) (b : Bool) (k : ℕ) :
    (if b then R + M else R) + k • (M + M) = R + ((if b then 1 else 0) + 2 * k) • M := by
  cases b
  · simp only [Bool.false_eq_true, if_false, zero_add, mul_smul, two_smul, smul_add]
  · simp only [if_true, add_smul, one_smul, mul_smul, two_smul, smul_add, add_assoc]

theorem ladderLsb_repr (add : Ext → Ext → Ext) (dbl : Ext → Ext)
    (hadd : ∀ c1 c2 (p1 p2 : E), ERepr c1 p1 → ERepr c2 p2 → ERepr (add c1 c2) (p1 + p2))
    (hdbl : ∀ c (pt : E), ERepr c pt → ERepr (dbl c) (pt + pt))
    (bits : List Bool) : ∀ (acc ins : Ext) (pa pi : E), ERepr acc pa → ERepr ins pi →
      ERepr (Ext.ladderLsbAux add dbl bits acc ins) (pa + bitsVal bits • pi) := by
  induction bits with
  | nil => intro acc ins pa pi ha _; simpa [Ext.ladderLsbAux, bitsVal] using ha
  | cons b bs ih =>
    intro acc ins pa pi ha hi
    rw [Ext.ladderLsbAux, bitsVal, ← ladder_step]
    refine ih _ _ _ _ ?_ (hdbl _ _ hi)
    cases b
    · exact ha
    · exact hadd _ _ _ _ ha hi

/-- one round of MSB-first double-and-add, in any commutative group -/
theorem ladderMsb_step {G : Type*} [AddCommGroup G] (A P : G) (b : Bool) (n k : ℕ) :
    2 ^ n • (if b then A + A + P else A + A) + k • P = 2 ^ (n + 1) • A + (k + 2 ^ n * (if b then 1 else 0)) • P := by
  cases b
  · simp only [Bool.false_eq_true, if_false, mul_zero, add_zero, pow_succ, mul_smul, two_smul]
  · simp only [if_true, mul_one, pow_succ, mul_smul, two_smul, smul_add, add_smul]
    abel

/-- MSB-first double-and-add (arkworks `mul_bigint`) computes `2^len • acc + k • p`, `k` the bit list read as a
big-endian numeral -/
theorem ladderMsb_repr (add : Ext → Ext → Ext) (dbl : Ext → Ext)
    (hadd : ∀ c1 c2 (p1 p2 : E), ERepr c1 p1 → ERepr c2 p2 → ERepr (add c1 c2) (p1 + p2))
    (hdbl : ∀ c (pt : E), ERepr c pt → ERepr (dbl c) (pt + pt))
    (p : Ext) (pp : E) (hp : ERepr p pp) (bits : List Bool) : ∀ (acc : Ext) (pa : E), ERepr acc pa →
      ERepr (Ext.ladderMsbAux add dbl p bits acc) (2 ^ bits.length • pa + bitsVal bits.reverse • pp) := by
  induction bits with
  | nil => intro acc pa ha; simpa [Ext.ladderMsbAux, bitsVal] using ha
  | cons b bs ih =>
    intro acc pa ha
    rw [Ext.ladderMsbAux, List.reverse_cons, bitsVal_append, List.length_reverse, List.length_cons, bitsVal, bitsVal,
      mul_zero, add_zero, ← ladderMsb_step]
    refine ih _ _ ?_
    cases b
    · exact hdbl _ _ ha
    · exact hadd _ _ _ _ (hdbl _ _ ha) hp

/-- leading zeros, which `mul_bigint` skips, do not count -/
theorem bitsVal_reverse_dropWhile (bits : List Bool) :
    bitsVal (bits.dropWhile (· == false)).reverse = bitsVal bits.reverse := by
  induction bits with
  | nil => rfl
  | cons b bs ih =>
    cases b
    · rw [List.dropWhile_cons_of_pos rfl, ih, List.reverse_cons, bitsVal_append]
      simp [bitsVal]
    · rfl

end Model
