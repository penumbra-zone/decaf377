/-
The model's arithmetic in Fp2 = Fp[u]/(u² - β) (`Model.C16.mul2`, `pow2`, on pairs of canonical naturals) is multiplication and
exponentiation in that ring (Mathlib's `QuadraticAlgebra (ZMod p) β 0`), and a table of Frobenius coefficients
`base^((k·p^i - k)/den)`, i = 0, 1, 2, …, can be checked by its recurrence `c(i+1) = c(i)^p · c(1)` (`frobOk_of_chain`): one
exponentiation by `p` per entry, where evaluating the definition costs an exponent of `i` times the length of `p` for entry `i`.
-/
import Mathlib.Algebra.QuadraticAlgebra.Defs
import Decaf.Lemmas.Bridge
import Decaf.Model.ConstFacts

namespace Model.C16

attribute [local irreducible] p beta

abbrev F2 := QuadraticAlgebra (ZMod p) (beta : ZMod p) 0

def toF2 (a : ℕ × ℕ) : F2 := ⟨a.1, a.2⟩

theorem toF2_mul2 (a b : ℕ × ℕ) : toF2 (mul2 a b) = toF2 a * toF2 b := by
  ext
  · simp only [toF2, mul2, QuadraticAlgebra.re_mul, cast_fadd, cast_fmul, mul_assoc]
  · simp only [toF2, mul2, QuadraticAlgebra.im_mul, cast_fadd, cast_fmul, zero_mul, add_zero]

theorem toF2_pow2Aux : ∀ (fuel : ℕ) (a : ℕ × ℕ) (e : ℕ) (acc : ℕ × ℕ), e < 2 ^ fuel →
    toF2 (pow2Aux fuel a e acc) = toF2 acc * toF2 a ^ e
  | 0, a, e, acc, h => by
    obtain rfl : e = 0 := Nat.lt_one_iff.mp h
    rw [pow2Aux, pow_zero, mul_one]
  | fuel + 1, a, e, acc, h => by
    rw [pow2Aux]
    split
    · next h0 => rw [h0, pow_zero, mul_one]
    · rw [toF2_pow2Aux fuel _ _ _ (by omega), toF2_mul2]
      conv_rhs => rw [← Nat.div_add_mod e 2, pow_add, pow_mul, sq]
      split
      · next h1 => rw [toF2_mul2, h1, pow_one]; ac_rfl
      · next h1 => rw [Nat.mod_two_ne_one.mp h1, pow_zero, mul_one]

theorem toF2_pow2 (a : ℕ × ℕ) (e : ℕ) : toF2 (pow2 a e) = toF2 a ^ e := by
  have h1 : toF2 (1, 0) = 1 := QuadraticAlgebra.ext Nat.cast_one Nat.cast_zero
  rw [pow2, toF2_pow2Aux e a e (1, 0) Nat.lt_two_pow_self, h1, one_mul]

theorem mul2_lt (a b : ℕ × ℕ) : (mul2 a b).1 < p ∧ (mul2 a b).2 < p :=
  ⟨fadd_lt prime_p.pos _ _, fadd_lt prime_p.pos _ _⟩

theorem pow2Aux_lt : ∀ (fuel : ℕ) (a : ℕ × ℕ) (e : ℕ) (acc : ℕ × ℕ), (acc.1 < p ∧ acc.2 < p) →
    (pow2Aux fuel a e acc).1 < p ∧ (pow2Aux fuel a e acc).2 < p
  | 0, _, _, _, h => h
  | fuel + 1, a, e, acc, h => by
    rw [pow2Aux]
    split
    · exact h
    · refine pow2Aux_lt fuel _ _ _ ?_
      split
      · exact mul2_lt _ _
      · exact h

theorem pow2_lt (a : ℕ × ℕ) (e : ℕ) : (pow2 a e).1 < p ∧ (pow2 a e).2 < p :=
  pow2Aux_lt e a e (1, 0) ⟨prime_p.one_lt, prime_p.pos⟩

theorem eq_of_toF2_eq {a b : ℕ × ℕ} (ha : a.1 < p ∧ a.2 < p) (hb : b.1 < p ∧ b.2 < p) (h : toF2 a = toF2 b) : a = b :=
  Prod.ext (eq_of_cast_eq ha.1 hb.1 (congrArg QuadraticAlgebra.re h)) (eq_of_cast_eq ha.2 hb.2 (congrArg QuadraticAlgebra.im h))

def chainOk (c1 : ℕ × ℕ) : List (ℕ × ℕ) → Bool
  | c :: c' :: cs => c' == mul2 (pow2 c p) c1 && chainOk c1 (c' :: cs)
  | _ => true

/-- **Frobenius coefficients by their recurrence**: with `k·p = den·E + k`, `k·p^i = den·E·(1 + p + … + p^(i-1)) + k`, so
`base^((k·p^(i+1) - k)/den) = (base^((k·p^i - k)/den))^p · base^E`: a table that starts with `1` and satisfies the recurrence
with `c1 = base^E` is the table of these powers -/
theorem frobOk_of_chain {cs : List (ℕ × ℕ)} {base c1 : ℕ × ℕ} {k den E : ℕ} (hden : 0 < den) (hE : k * p = den * E + k)
    (h1 : c1 = pow2 base E) (h0 : cs.head? = some (1, 0)) (hc : chainOk c1 cs = true) :
    frobOk cs base k den = true := by
  -- the entry at index `i` is `base^(E·g)` where `k·p^i = den·(E·g) + k`; the next one has `g' = p·g + 1`
  have aux : ∀ (cs : List (ℕ × ℕ)) (i g : ℕ), k * p ^ i = den * (E * g) + k → cs.head? = some (pow2 base (E * g)) →
      chainOk c1 cs = true → ((cs.zipIdx i).all fun ci => ci.1 == pow2 base ((k * p ^ ci.2 - k) / den)) = true := by
    intro cs
    induction cs with
    | nil => intros; rfl
    | cons c cs ih =>
      intro i g hg hhead hch
      obtain rfl : c = pow2 base (E * g) := Option.some.inj hhead
      rw [List.zipIdx_cons, List.all_cons, hg, Nat.add_sub_cancel, Nat.mul_div_cancel_left _ hden, beq_self_eq_true,
        Bool.true_and]
      cases cs with
      | nil => rfl
      | cons c' cs =>
        rw [chainOk, Bool.and_eq_true, beq_iff_eq] at hch
        refine ih (i + 1) (p * g + 1) ?_ ?_ hch.2
        · rw [pow_succ, ← Nat.mul_assoc, hg, Nat.add_mul, hE]; ring
        · rw [List.head?_cons, hch.1, h1]
          congr 1
          refine eq_of_toF2_eq (mul2_lt _ _) (pow2_lt _ _) ?_
          rw [toF2_mul2, toF2_pow2, toF2_pow2, toF2_pow2, toF2_pow2, ← pow_mul, ← pow_add]
          congr 1; ring
  rw [frobOk]
  exact aux cs 0 0 (by simp) (by rw [h0, Nat.mul_zero]; rfl) hc

end Model.C16
