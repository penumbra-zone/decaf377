/-
Little-endian digit strings and naturals.  `Lit.ofLimbs w` is `Nat.ofDigits (2 ^ w)`, `toLimbs w x n` the first `n`
digits of `x` in that radix; bytes are the case `w = 8` (`leBytes_eq_ofLimbs`, `toLeBytes_eq_toLimbs`), and the length,
round-trip and append facts about bytes are those about limbs at `w = 8`.  The last three lemmas bound a single byte by
the value of the string: what the top-bits test of decoding needs.
-/
import Mathlib.Data.Nat.Digits.Defs
import Decaf.Model.Field

namespace Model

theorem ofLimbs_eq_ofDigits (w : ℕ) (ls : List ℕ) : Lit.ofLimbs w ls = Nat.ofDigits (2 ^ w) ls := by
  induction ls with
  | nil => rfl
  | cons l ls ih => rw [Lit.ofLimbs, ih, Nat.ofDigits_cons]

theorem leBytes_eq_ofLimbs (bs : List ℕ) : leBytes bs = Lit.ofLimbs 8 bs := by
  induction bs with
  | nil => rfl
  | cons b bs ih => rw [leBytes, ih]; rfl

theorem toLeBytes_eq_toLimbs (x n : ℕ) : toLeBytes x n = toLimbs 8 x n := by
  induction n generalizing x with
  | zero => rfl
  | succ n ih => rw [toLeBytes, ih]; rfl

theorem toLimbs_length (w x n : ℕ) : (toLimbs w x n).length = n := by
  induction n generalizing x with
  | zero => rfl
  | succ n ih => simp [toLimbs, ih]

theorem toLimbs_lt (w x n : ℕ) : ∀ l ∈ toLimbs w x n, l < 2 ^ w := by
  induction n generalizing x with
  | zero => simp [toLimbs]
  | succ n ih =>
    simp only [toLimbs, List.mem_cons, forall_eq_or_imp]
    exact ⟨Nat.mod_lt _ (Nat.two_pow_pos w), ih _⟩

theorem toLimbs_succ (w x n : ℕ) : toLimbs w x (n + 1) = toLimbs w x n ++ [x / (2 ^ w) ^ n % 2 ^ w] := by
  induction n generalizing x with
  | zero => simp [toLimbs]
  | succ n ih => rw [toLimbs, ih, toLimbs, List.cons_append, Nat.div_div_eq_div_mul, ← pow_succ']

theorem ofLimbs_toLimbs (w x n : ℕ) : Lit.ofLimbs w (toLimbs w x n) = x % (2 ^ w) ^ n := by
  induction n generalizing x with
  | zero => simp [toLimbs, Lit.ofLimbs, Nat.mod_one]
  | succ n ih => rw [toLimbs, Lit.ofLimbs, ih, pow_succ', Nat.mod_mul]

theorem ofLimbs_toLimbs_of_lt {w x n : ℕ} (h : x < (2 ^ w) ^ n) : Lit.ofLimbs w (toLimbs w x n) = x := by
  rw [ofLimbs_toLimbs, Nat.mod_eq_of_lt h]

theorem toLimbs_ofLimbs (w : ℕ) (ls : List ℕ) (h : ∀ l ∈ ls, l < 2 ^ w) :
    toLimbs w (Lit.ofLimbs w ls) ls.length = ls := by
  induction ls with
  | nil => rfl
  | cons l ls ih =>
    rw [List.forall_mem_cons] at h
    rw [List.length_cons, toLimbs, Lit.ofLimbs, Nat.add_mul_mod_self_left, Nat.mod_eq_of_lt h.1,
      Nat.add_mul_div_left _ _ (Nat.two_pow_pos w), Nat.div_eq_of_lt h.1, Nat.zero_add, ih h.2]

theorem ofLimbs_append (w : ℕ) (a b : List ℕ) :
    Lit.ofLimbs w (a ++ b) = Lit.ofLimbs w a + (2 ^ w) ^ a.length * Lit.ofLimbs w b := by
  simp only [ofLimbs_eq_ofDigits, Nat.ofDigits_append]

theorem ofLimbs_lt {w : ℕ} (hw : 0 < w) (ls : List ℕ) (h : ∀ l ∈ ls, l < 2 ^ w) :
    Lit.ofLimbs w ls < (2 ^ w) ^ ls.length :=
  ofLimbs_eq_ofDigits w ls ▸ Nat.ofDigits_lt_base_pow_length (Nat.one_lt_two_pow hw.ne') h

theorem toLeBytes_length (x n : ℕ) : (toLeBytes x n).length = n :=
  toLeBytes_eq_toLimbs x n ▸ toLimbs_length 8 x n

theorem toLeBytes_lt (x n : ℕ) : ∀ b ∈ toLeBytes x n, b < 256 :=
  toLeBytes_eq_toLimbs x n ▸ toLimbs_lt 8 x n

theorem leBytes_toLeBytes (x n : ℕ) (h : x < 256 ^ n) : leBytes (toLeBytes x n) = x := by
  rw [leBytes_eq_ofLimbs, toLeBytes_eq_toLimbs]; exact ofLimbs_toLimbs_of_lt h

theorem toLeBytes_succ (x n : ℕ) : toLeBytes x (n + 1) = toLeBytes x n ++ [x / 256 ^ n % 256] := by
  simp only [toLeBytes_eq_toLimbs]; exact toLimbs_succ 8 x n

theorem leBytes_append (a b : List ℕ) : leBytes (a ++ b) = leBytes a + 256 ^ a.length * leBytes b := by
  simp only [leBytes_eq_ofLimbs]; exact ofLimbs_append 8 a b

theorem leBytes_lt (bs : List ℕ) (h : ∀ b ∈ bs, b < 256) : leBytes bs < 256 ^ bs.length :=
  leBytes_eq_ofLimbs bs ▸ ofLimbs_lt (by norm_num) bs h

theorem toLeBytes_leBytes (bs : List ℕ) (h : ∀ b ∈ bs, b < 256) : toLeBytes (leBytes bs) bs.length = bs := by
  rw [leBytes_eq_ofLimbs, toLeBytes_eq_toLimbs]; exact toLimbs_ofLimbs 8 bs h

theorem leBytes_injective {a b : List ℕ} (hlen : a.length = b.length) (ha : ∀ x ∈ a, x < 256) (hb : ∀ x ∈ b, x < 256)
    (h : leBytes a = leBytes b) : a = b := by
  rw [← toLeBytes_leBytes a ha, ← toLeBytes_leBytes b hb, h, hlen]

theorem getD_mul_le_leBytes (bs : List ℕ) (i : ℕ) : bs.getD i 0 * 256 ^ i ≤ leBytes bs := by
  induction bs generalizing i with
  | nil => simp [leBytes]
  | cons b bs ih =>
    cases i with
    | zero => simp [leBytes]
    | succ i =>
      rw [List.getD_cons_succ, leBytes, pow_succ', Nat.mul_left_comm]
      exact le_add_left (Nat.mul_le_mul_left _ (ih i))

theorem getD_lt_of_leBytes_lt {bs : List ℕ} {c i : ℕ} (h : leBytes bs < c * 256 ^ i) : bs.getD i 0 < c :=
  Nat.lt_of_mul_lt_mul_right ((getD_mul_le_leBytes bs i).trans_lt h)

theorem top_bits_clear (x : ℕ) (h : x < 2 ^ 253) : (toLeBytes x 32).getD 31 0 < 32 :=
  getD_lt_of_leBytes_lt ((leBytes_toLeBytes x 32 (h.trans (by norm_num))).trans_lt (h.trans_eq (by norm_num)))

end Model
