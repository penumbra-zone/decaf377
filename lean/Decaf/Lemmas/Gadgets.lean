/-
The R1CS gadgets: gadget = the constraints of isqrt + the native formula evaluated at the hint.

Each native function N (encode, decode, Elligator) asks the square-root routine once, `sr 1 (arg inp)`, and computes
out inp f v from the answer (f, v) (`N_of_sr`, Lemmas/ModelEncoding.lean and ModelElligator.lean).  Its gadget G emits the
constraints of `isqrt (arg inp)` on the prover's hint (f, v) and outputs the same out inp f v:
  * `G_of_isqrt` : isqrt (arg inp) h = (sat, f, v)  →  G inp h = (sat && side conditions, out inp f v)
The constraints of isqrt are one equation in Fq (`isqrt_sat_iff`).  At a non-zero argument a hint that satisfies it is an
allowed answer (`isqrt_ans`), so the answer-level theorems (`decOut_spec`, `encOut_spec`, `ellOut_spec`) apply to the
hint directly: soundness.  An allowed answer satisfies it at every argument (`isqrt_sat_of_ans`): completeness, the honest
hint being what the native routine answers.
-/
import Decaf.Lemmas.ModelElligator
import Decaf.Model.R1cs

namespace Model
open Edwards Decaf

-- as in ModelEncoding.lean; `ZETA` is a computed term too
attribute [local irreducible] ZETA q

theorem fsq_eq_iff {y c : ℕ} (hc : c < q) : fsq q y = c ↔ (y : Fq) ^ 2 = (c : Fq) := by
  rw [← cast_inj (fsq_lt q_pos y) hc, cast_fsq]

theorem isqrt_some (x : ℕ) (f : Bool) (y : ℕ) :
    R1cs.isqrt x (some (f, y)) = ((R1cs.isqrt x (some (f, y))).1, f, y) := rfl

theorem isqrt_sat_iff {x : ℕ} (hx : x < q) (f : Bool) (y : ℕ) :
    (R1cs.isqrt x (some (f, y))).1 = true ↔
      (y : Fq) ^ 2 * (if x = 0 then 1 else (x : Fq)) = if f then 1 else if x = 0 then 0 else (ZETA : Fq) := by
  -- of the guarded constraints exactly one is active (`c1` if `f`, else `c3` at `x = 0` and `c4` off it); `inCase` always holds
  unfold R1cs.isqrt
  by_cases hx0 : x = 0
  · subst hx0
    cases f <;> simp [fsq_eq_iff, canon, fq]
  · have hxq : (x : Fq) ≠ 0 := by rwa [Ne, cast_eq_zero_iff hx]
    cases f <;> simp [hx0, fsq_eq_iff, canon, fq, ← mul_eq_one_iff_eq_inv₀ hxq, eq_mul_inv_iff_mul_eq₀ hxq]

theorem isqrt_sound {x : ℕ} (hx : x < q) (hx0 : x ≠ 0) {f : Bool} {y : ℕ}
    (hsat : (R1cs.isqrt x (some (f, y))).1 = true) :
    (f = true ↔ IsSquare (x : Fq)) ∧ (y : Fq) ^ 2 * (x : Fq) = if f then 1 else (ZETA : Fq) := by
  have h := (isqrt_sat_iff hx f y).mp hsat
  simp only [hx0, if_false] at h
  exact ⟨isSquare_iff_of_sq_mul zeta_nonsquare h, h⟩

theorem isqrt_ans {x : ℕ} (hx : x < q) (hx0 : x ≠ 0) {f : Bool} {y : ℕ}
    (hsat : (R1cs.isqrt x (some (f, y))).1 = true) : IsqrtAns (ZETA : Fq) (x : Fq) f (y : Fq) :=
  .of_sq_mul zeta_nonsquare (mt (cast_eq_zero_iff hx).mp hx0) (isqrt_sound hx hx0 hsat).2

theorem isqrt_sat_of_ans {x : ℕ} (hx : x < q) {f : Bool} {y : ℕ} (hA : IsqrtAns (ZETA : Fq) (x : Fq) f (y : Fq)) :
    (R1cs.isqrt x (some (f, y))).1 = true := by
  rw [isqrt_sat_iff hx]
  by_cases hx0 : x = 0
  · obtain ⟨rfl, hy⟩ := hA.zero (by rw [hx0, Nat.cast_zero])
    simp [hx0, hy]
  · have hxq : (x : Fq) ≠ 0 := by rwa [Ne, cast_eq_zero_iff hx]
    cases f
    · simpa [hx0] using hA.root_of_false hxq rfl
    · simpa [hx0] using hA.root rfl

theorem compress_of_isqrt {x y : ℕ} {h : R1cs.Hint} {sat f : Bool} {v : ℕ}
    (hi : R1cs.isqrt (encDen (Ext.ofAffine (x, y))) h = (sat, f, v)) :
    R1cs.compress x y h = (sat, encOut (Ext.ofAffine (x, y)) v) := by
  unfold encDen Ext.ofAffine at hi
  unfold R1cs.compress
  simp only [] at hi ⊢
  rw [hi]
  rfl

theorem decompress_of_isqrt {s : ℕ} {h : R1cs.Hint} {sat f : Bool} {v : ℕ}
    (hi : R1cs.isqrt (decDen s) h = (sat, f, v)) :
    R1cs.decompress s h = (!isNeg s && sat && f, decOut s v) := by
  unfold decDen at hi
  unfold R1cs.decompress
  simp only []
  rw [hi]
  rfl

theorem elligator_of_isqrt {r0 : ℕ} {h : R1cs.Hint} {sat f : Bool} {v : ℕ}
    (hi : R1cs.isqrt (ellArg r0) h = (sat, f, v)) :
    R1cs.elligator r0 h =
      (sat && (ellF r0 f v != 0) && (ellT r0 f v != 0),
        fmul q (ellE r0 f v) (finv q (ellF r0 f v)), fmul q (ellG r0 f v) (finv q (ellT r0 f v))) := by
  unfold ellArg at hi
  unfold R1cs.elligator
  simp only []
  rw [hi]
  simp only [R1cs.invG, ellE, ellF, ellG, ellS, ellT]

/-- from the extended coordinates (E·H : F·G : F·H : E·G) to the affine pair the gadget computes -/
theorem ell_affine {E' F' G' H' : ℕ} {pt : E}
    (hr : ERepr ⟨fmul q E' H', fmul q F' G', fmul q F' H', fmul q E' G'⟩ pt) :
    (F' : Fq) ≠ 0 ∧ (H' : Fq) ≠ 0 ∧ pt.x = ((fmul q E' (finv q F') : ℕ) : Fq) ∧ pt.y = ((fmul q G' (finv q H') : ℕ) : Fq) := by
  have hz := hr.z
  have hx := hr.hx
  have hy := hr.hy
  simp only [cast_fmul] at hz hx hy
  have hFq : (F' : Fq) ≠ 0 := left_ne_zero_of_mul hz
  have hHq : (H' : Fq) ≠ 0 := right_ne_zero_of_mul hz
  refine ⟨hFq, hHq, ?_, ?_⟩
  · rw [cast_fmul, cast_finv_q, eq_mul_inv_iff_mul_eq₀ hFq]
    apply mul_right_cancel₀ hHq
    linear_combination -hx
  · rw [cast_fmul, cast_finv_q, eq_mul_inv_iff_mul_eq₀ hHq]
    apply mul_left_cancel₀ hFq
    linear_combination -hy

end Model
