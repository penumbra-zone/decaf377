/-
Primality of the three moduli: a Pratt certificate for each (every line: a prime `p`, a Lucas witness `a`, the
factorisation of `p - 1`; a factor is certified by an earlier line, or by trial division if it is small), checked by one
kernel evaluation of `prattCheck`; `prattCheck_sound` turns that into `Nat.Prime`.  sympy found the factorisations and
witnesses (tools/gen_pratt.py); nothing it says is trusted.
The witnesses for q, r, p are the repository's own multiplicative generators 22, 5, 15.
-/
import Decaf.Lemmas.PowMod

namespace Model

/-- trial division from `d` upwards, at most `fuel` steps -/
def trialFrom (n : ℕ) : ℕ → ℕ → Bool
  | 0, _ => false
  | fuel + 1, d => if n < d * d then true else if n % d = 0 then false else trialFrom n fuel (d + 1)

theorem trialFrom_sound {n : ℕ} (hn : 2 ≤ n) : ∀ fuel d, (∀ m, 2 ≤ m → m < d → ¬ m ∣ n) → trialFrom n fuel d = true → n.Prime
  | 0, _, _, h => by simp [trialFrom] at h
  | fuel + 1, d, hlt, h => by
    unfold trialFrom at h
    split_ifs at h with h1 h2
    · exact Nat.prime_def_le_sqrt.mpr ⟨hn, fun m hm hms => hlt m hm (lt_of_le_of_lt hms (Nat.sqrt_lt.mpr h1))⟩
    · refine trialFrom_sound hn fuel (d + 1) (fun m hm hmd hmn => ?_) h
      rcases Nat.lt_succ_iff_lt_or_eq.mp hmd with h3 | rfl
      exacts [hlt m hm h3 hmn, h2 (Nat.mod_eq_zero_of_dvd hmn)]

/-- a line of a Pratt certificate: `p - 1 = ∏ fs^es`, and `a` has order exactly `p - 1` modulo `p` -/
structure PrattLine where
  (p a : ℕ) (fs es : List ℕ)

/-- the line is right, given that the members of `known` are prime; a factor not in `known` must pass trial division -/
def PrattLine.ok (known : List ℕ) (c : PrattLine) : Bool :=
  decide (1 < c.p) && (List.zipWith (· ^ ·) c.fs c.es).prod == c.p - 1 && c.fs.length == c.es.length &&
  c.fs.all (fun l => known.contains l || (decide (2 ≤ l) && trialFrom l l 2)) &&
  powMod c.a (c.p - 1) c.p == 1 && c.fs.all fun l => powMod c.a ((c.p - 1) / l) c.p != 1

def prattCheck : List ℕ → List PrattLine → Bool
  | _, [] => true
  | known, c :: cs => c.ok known && prattCheck (c.p :: known) cs

theorem PrattLine.ok_sound {known : List ℕ} {c : PrattLine} (hk : ∀ l ∈ known, l.Prime) (h : c.ok known = true) : c.p.Prime := by
  simp only [PrattLine.ok, Bool.and_eq_true, decide_eq_true_eq, beq_iff_eq, List.all_eq_true, Bool.or_eq_true,
    List.contains_iff_mem, bne_iff_ne, ne_eq] at h
  obtain ⟨⟨⟨⟨⟨h1, h2⟩, h3⟩, h4⟩, h5⟩, h6⟩ := h
  exact prime_of_lucas_cert c.p c.a c.fs c.es h1 h2 h3
    (fun l hl => (h4 l hl).elim (hk l) fun h => trialFrom_sound h.1 l 2 (fun m hm hm' => by omega) h.2) h5 h6

theorem prattCheck_sound : ∀ (cs : List PrattLine) (known : List ℕ), (∀ l ∈ known, l.Prime) → prattCheck known cs = true →
    ∀ c ∈ cs, c.p.Prime
  | [], _, _, _ => by simp
  | c :: cs, known, hk, h => by
    rw [prattCheck, Bool.and_eq_true] at h
    have hc := c.ok_sound hk h.1
    exact List.forall_mem_cons.mpr ⟨hc, prattCheck_sound cs (c.p :: known) (List.forall_mem_cons.mpr ⟨hc, hk⟩) h.2⟩

theorem prime_of_pratt (cs : List PrattLine) (c : PrattLine) (h : prattCheck [] (cs ++ [c]) = true) : c.p.Prime :=
  prattCheck_sound _ [] (by simp) h c (by simp)

theorem prime_q : Nat.Prime q :=
  prime_of_pratt
    [⟨9586122913090633729, 11, [2, 3, 7, 13, 499], [46, 1, 1, 1, 1]⟩,
    ⟨126397, 5, [2, 3, 3511], [2, 2, 1]⟩,
    ⟨1832756501, 2, [2, 5, 29, 126397], [2, 3, 1, 1]⟩,
    ⟨49484425527001, 14, [2, 3, 5, 1832756501], [3, 3, 3, 1]⟩,
    ⟨958612291309063373, 2, [2, 29, 167, 49484425527001], [2, 1, 1, 1]⟩]
    ⟨q, 22, [2, 3, 5, 7, 13, 499, 958612291309063373, 9586122913090633729], [47, 1, 1, 1, 1, 1, 1, 2]⟩ (by decide +kernel)

theorem prime_r : Nat.Prime r :=
  prime_of_pratt
    [⟨933403, 2, [2, 3, 17, 9151], [1, 1, 1, 1]⟩,
    ⟨1282495723, 5, [2, 3, 229, 933403], [1, 1, 1, 1]⟩,
    ⟨188799526603, 3, [2, 3, 17, 71, 1187, 7321], [1, 2, 1, 1, 1, 1]⟩,
    ⟨4153589585267, 2, [2, 11, 188799526603], [1, 1, 1]⟩,
    ⟨103583, 5, [2, 67, 773], [1, 1, 1]⟩,
    ⟨38740043, 5, [2, 11, 17, 103583], [1, 1, 1, 1]⟩,
    ⟨11892231440692483, 3, [2, 3, 11, 71, 109, 601, 38740043], [1, 1, 1, 1, 1, 1, 1]⟩,
    ⟨734177, 3, [2, 22943], [5, 1]⟩,
    ⟨516860609, 3, [2, 11, 734177], [6, 1, 1]⟩,
    ⟨15505818271, 6, [2, 3, 5, 516860609], [1, 1, 1, 1]⟩,
    ⟨212367687039617, 3, [2, 107, 15505818271], [7, 1, 1]⟩,
    ⟨227853185823450011796547, 3, [2, 3, 12511, 14293, 212367687039617], [1, 1, 1, 1, 1]⟩,
    ⟨127594226306900005382664386181896662579473947460767, 5, [2, 73, 149, 181, 11959, 11892231440692483, 227853185823450011796547], [1, 1, 1, 1, 1, 1, 1]⟩]
    ⟨r, 5, [2, 1553, 1282495723, 4153589585267, 127594226306900005382664386181896662579473947460767], [1, 1, 1, 1, 1]⟩ (by decide +kernel)

theorem prime_p : Nat.Prime p :=
  prime_of_pratt
    [⟨71924131, 2, [2, 3, 5, 317, 2521], [1, 2, 1, 1, 1]⟩,
    ⟨6633514200929891813, 2, [2, 19, 25537, 47521, 71924131], [2, 1, 1, 1, 1]⟩,
    ⟨22433633, 3, [2, 13, 53927], [5, 1, 1]⟩,
    ⟨494527005853, 5, [2, 3, 11, 167, 22433633], [2, 1, 1, 1, 1]⟩,
    ⟨76872275827, 2, [2, 3, 17, 19, 23, 229, 443], [1, 1, 2, 1, 1, 1, 1]⟩,
    ⟨1844934619849, 14, [2, 3, 76872275827], [3, 1, 1]⟩,
    ⟨111286271775829695101, 2, [2, 5, 73, 8263, 1844934619849], [2, 2, 1, 1, 1]⟩,
    ⟨222572543551659390203, 2, [2, 111286271775829695101], [1, 1]⟩,
    ⟨97931919162730131689321, 3, [2, 5, 11, 222572543551659390203], [3, 1, 1, 1]⟩,
    ⟨3721412928183745004194199, 13, [2, 19, 97931919162730131689321], [1, 1, 1]⟩,
    ⟨408971, 2, [2, 5, 40897], [1, 1, 1]⟩,
    ⟨4777599223, 3, [2, 3, 11, 59, 408971], [1, 2, 1, 1, 1]⟩,
    ⟨8583511, 6, [2, 3, 5, 13, 1693], [1, 1, 1, 2, 1]⟩,
    ⟨5301089, 3, [2, 13, 12743], [5, 1, 1]⟩,
    ⟨5187222954756607, 3, [2, 3, 19, 5301089, 8583511], [1, 1, 1, 1, 1]⟩,
    ⟨7880826209898991662826602799, 21, [2, 3, 53, 4777599223, 5187222954756607], [1, 1, 1, 1, 1]⟩,
    ⟨73387170334035996766247648424745786170238574695861388454532790956181, 3, [2, 5, 11, 23, 494527005853, 3721412928183745004194199, 7880826209898991662826602799], [2, 1, 1, 1, 1, 1, 1]⟩]
    ⟨p, 15, [2, 3, 7, 13, 53, 409, 499, 2557, 6633514200929891813, 73387170334035996766247648424745786170238574695861388454532790956181], [46, 1, 1, 1, 1, 1, 1, 1, 1, 1]⟩ (by decide +kernel)

instance : Fact (Nat.Prime q) := ⟨prime_q⟩
instance : Fact (Nat.Prime r) := ⟨prime_r⟩
instance : Fact (Nat.Prime p) := ⟨prime_p⟩
end Model
