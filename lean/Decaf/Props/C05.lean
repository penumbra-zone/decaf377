/-
C05 — Scalar multiplication is the Z/r-module action; all elements have order | r.

Proved for every limb list (any length, limbs < 2^64 as the type `u64` guarantees): both ladders compute
`(Σ limbsᵢ·2^{64i}) • P`; for scalars given as field elements, `k • P`; multi-scalar products are the sum of the
products.  The generator's order is exactly r in the quotient by ⟨T2⟩ (kernel evaluation of the ladder + primality
of r).  `order_dvd` ("r • P is the identity for every group element") is proved in full, without point counting:
|E| ∈ {4r, 8r} from elementary bounds, no point of order 8, hence 4r kills E and r kills 𝔾 modulo T2 (DESIGN.md §5.7).
-/
import Decaf.Lemmas.Order
import Decaf.Lemmas.Bytes
import Decaf.Props.C04

namespace C05
open Model Edwards

/-- minimal backend (`scalar_mul_both`, both the constant-time and the variable-time instance): LSB-first ladder -/
theorem scalarMulMin_correct {c : Ext} {p : E} (h : ERepr c p) (limbs : List ℕ) (hl : ∀ l ∈ limbs, l < 2 ^ 64) :
    ERepr (c.scalarMulMin limbs) (Lit.ofLimbs 64 limbs • p) := by
  have := ladderLsb_repr Ext.addMin Ext.doubleMin (fun _ _ _ _ => addMin_repr) (fun _ _ => doubleMin_repr)
    (limbsBits limbs) Ext.identity c 0 p identity_repr h
  rwa [zero_add, bitsVal_limbsBits limbs hl] at this

/-- arkworks backend (`mul_bigint` over the limbs, MSB first, leading zeros skipped) -/
theorem scalarMulRef_correct {c : Ext} {p : E} (h : ERepr c p) (limbs : List ℕ) (hl : ∀ l ∈ limbs, l < 2 ^ 64) :
    ERepr (c.scalarMulRef limbs) (Lit.ofLimbs 64 limbs • p) := by
  have := ladderMsb_repr Ext.addRef Ext.doubleRef (fun _ _ _ _ => addRef_repr) (fun _ _ => doubleRef_repr) c p h
    ((limbsBits limbs).reverse.dropWhile (· == false)) Ext.identity 0 identity_repr
  rwa [smul_zero, zero_add, bitsVal_reverse_dropWhile, List.reverse_reverse, bitsVal_limbsBits limbs hl] at this

/-- both ladders agree on every integer of every length -/
theorem ladders_agree {c : Ext} {p : E} (h : ERepr c p) (limbs : List ℕ) (hl : ∀ l ∈ limbs, l < 2 ^ 64) :
    Ext.eq (c.scalarMulMin limbs) (c.scalarMulRef limbs) = true :=
  C04.eq_of_repr_same (scalarMulMin_correct h limbs hl) (scalarMulRef_correct h limbs hl)

theorem mul_toLimbs_correct {c : Ext} {p : E} (h : ERepr c p) {k n : ℕ} (hk : k < (2 ^ 64) ^ n) :
    ERepr (c.scalarMulMin (toLimbs 64 k n)) (k • p) ∧ ERepr (c.scalarMulRef (toLimbs 64 k n)) (k • p) := by
  have hm := scalarMulMin_correct h _ (toLimbs_lt 64 k n)
  have hr := scalarMulRef_correct h _ (toLimbs_lt 64 k n)
  rw [ofLimbs_toLimbs_of_lt hk] at hm hr
  exact ⟨hm, hr⟩

theorem r_lt : r < (2 ^ 64) ^ 4 := by rw [r_val]; norm_num

/-- multiplication by a scalar-field element `k < r` (as `Mul<Fr>`: through its four little-endian limbs) -/
theorem mul_fr_correct {c : Ext} {p : E} (h : ERepr c p) (k : ℕ) (hk : k < r) :
    ERepr (c.scalarMulMin (toLimbs 64 k 4)) (k • p) ∧ ERepr (c.scalarMulRef (toLimbs 64 k 4)) (k • p) :=
  mul_toLimbs_correct h (hk.trans r_lt)

/-- multi-scalar multiplication (`vartime_multiscalar_mul`: fold of `acc + kᵢ * Pᵢ`) is the sum of the products -/
theorem msm_correct (cs : List Ext) (ps : List E) (ks : List ℕ) (h : List.Forall₂ ERepr cs ps)
    (hk : ∀ k ∈ ks, k < r) (hlen : ks.length = cs.length) :
    ERepr ((List.zip ks cs).foldl (fun acc kc => Ext.addMin acc (kc.2.scalarMulMin (toLimbs 64 kc.1 4))) Ext.identity)
      ((List.zipWith (fun k p => k • p) ks ps).sum) := by
  -- term by term, the multiples of the representatives represent the multiples of the points; the fold is `C04.sum_correct`
  have hz : List.Forall₂ ERepr ((List.zip ks cs).map fun kc => kc.2.scalarMulMin (toLimbs 64 kc.1 4))
      (List.zipWith (fun k p => k • p) ks ps) := by
    clear hlen
    induction h generalizing ks with
    | nil => rw [List.zip_nil_right, List.zipWith_nil_right]; exact .nil
    | cons hab _ ih =>
      cases ks with
      | nil => exact .nil
      | cons k ks =>
        exact .cons (mul_fr_correct hab k (hk k List.mem_cons_self)).1 (ih ks fun x hx => hk x (List.mem_cons_of_mem _ hx))
  rw [← List.foldl_map]
  exact C04.sum_correct _ _ hz

/-! ### the order of the generator -/

def rLimbs : List ℕ := toLimbs 64 r 4
def genExt : Ext := ⟨C17.bx, C17.by', 1, C17.bt⟩

/-- kernel evaluation of the ladder: r · B has X = 0, and B itself does not -/
theorem r_mul_gen_isIdentity : Ext.isIdentity (genExt.scalarMulMin rLimbs) = true := by decide +kernel
theorem gen_not_identity : Ext.isIdentity genExt = false := by decide +kernel

theorem r_smul_gen : Point.Coset 0 (r • C04.genPoint) := by
  have h := (mul_toLimbs_correct C04.gen_repr r_lt).1
  have hX : (genExt.scalarMulMin rLimbs).X = 0 := beq_iff_eq.mp r_mul_gen_isIdentity
  exact (isIdentity_iff h (hX.trans_lt q_pos)).mp r_mul_gen_isIdentity

theorem gen_ne_identity : ¬ Point.Coset 0 C04.genPoint :=
  mt (isIdentity_iff C04.gen_repr (show C17.bx < q by decide +kernel)).mpr (Bool.eq_false_iff.mp gen_not_identity)

/-- in the decaf377 group E/⟨T2⟩ ⊇ 𝔾/⟨T2⟩ the generator has order exactly r:
`k • B` is in the identity coset iff `r ∣ k` -/
theorem generator_order (k : ℕ) : Point.Coset 0 (k • C04.genPoint) ↔ r ∣ k := by
  -- the left side says k • (B + B) = 0, and B + B has order r
  rw [Point.coset_iff_double, zero_add, ← nsmul_add, ← addOrderOf_double r_smul_gen gen_ne_identity,
    addOrderOf_dvd_iff_nsmul_eq_zero, eq_comm]

/-! ### every element has order dividing r (DESIGN.md §5.7, no point counting)

E(Fq) has at most 2q points, a point of order 4 and (by the two kernel facts above) a point of order r, hence
|E| ∈ {4r, 8r}; it has no point of order 8 because 1 + d is not a square; so 4r kills E, and r maps the even
subgroup 𝔾 — the points group elements are made of (C06) — into the identity coset {O, T2}. -/

theorem card_E : Fintype.card E = 4 * r ∨ Fintype.card E = 8 * r := card_E_cases r_smul_gen gen_ne_identity

theorem exponent_E (P : E) : (4 * r) • P = 0 := four_r_nsmul r_smul_gen gen_ne_identity P

/-- **r times any group element is the identity element** -/
theorem order_dvd {P : E} (he : Point.IsEven P) : Point.Coset 0 (r • P) := r_nsmul_even r_smul_gen gen_ne_identity he

/-- the same through the implementation's ladders and equality test: `r * c == identity` for every representative of
every group element, with either ladder -/
theorem order_dvd_eq {c : Ext} {P : E} (h : ERepr c P) (he : Point.IsEven P) :
    Ext.eq Ext.identity (c.scalarMulMin rLimbs) = true ∧ Ext.eq Ext.identity (c.scalarMulRef rLimbs) = true :=
  (mul_toLimbs_correct h r_lt).imp (fun h1 => (eq_iff_coset identity_repr h1).mpr (order_dvd he))
    fun h2 => (eq_iff_coset identity_repr h2).mpr (order_dvd he)

/-- k • P depends only on k mod r, up to the identity coset, for every group element P -/
theorem smul_mod_r {P : E} (he : Point.IsEven P) (k : ℕ) : Point.Coset ((k % r) • P) (k • P) := by
  -- a statement about P + P, which r kills
  have h0 := order_dvd he
  rw [Point.coset_iff_double, zero_add, ← nsmul_add] at h0
  rw [Point.coset_iff_double, ← nsmul_add, ← nsmul_add]
  conv_rhs => rw [← Nat.mod_add_div k r, add_nsmul, mul_nsmul, ← h0, nsmul_zero, add_zero]

end C05
