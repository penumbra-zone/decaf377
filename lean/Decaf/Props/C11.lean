/-
C11 — Field-element encodings and conversions are canonical and consistent.

The statements are about the model of the wrappers' glue (Model/Glue.lean) for the three concrete fields, with
`FIELD_SIZE_POWER_OF_TWO` etc. read from the generated constants.  Backend primitives (`from_raw_bytes` on exactly
N_8 bytes = reduction mod p; Montgomery arithmetic) enter by contract, see DESIGN.md §4.
-/
import Decaf.Lemmas.Glue
import Decaf.Model.Exec

namespace C11
open Model Model.Exec

/-- what the glue lemmas ask of a field record and its published modulus limbs -/
structure Params (F : FP) (ml : List ℕ) : Prop where
  n8_pos : 0 < F.n8
  m_pos : 0 < F.m
  fspt : F.fspt % F.m = 256 ^ F.n8 % F.m
  le_bytes : F.m ≤ 256 ^ F.n8
  lt_limbs : F.m < (2 ^ 64) ^ F.nl
  le_bits : F.m ≤ 2 ^ F.bits
  limbs : F.n8 ≤ 8 * F.nl
  /-- the top byte has two spare bits: the three standard flag types add no byte -/
  spare : F.bits + 2 ≤ 8 * F.n8
  ml_val : Lit.ofLimbs 64 ml = F.m
  ml_lt : ∀ l ∈ ml, l < 2 ^ 64
  ml_len : ml.length = F.nl

theorem fq_ok : Params fqP Gen.fields_fq.Fq.MODULUS_LIMBS.nats := by constructor <;> decide +kernel
theorem fr_ok : Params frP Gen.fields_fr.Fr.MODULUS_LIMBS.nats := by constructor <;> decide +kernel
theorem fp_ok : Params fpP Gen.fields_fp.Fp.MODULUS_LIMBS.nats := by constructor <;> decide +kernel

/-- **reduction of byte strings of ANY length equals the integer modulo p** (little endian) -/
theorem from_le_bytes_mod_order_spec (bs : List ℕ) :
    fqP.fromLeBytesModOrder bs = leBytes bs % q ∧ frP.fromLeBytesModOrder bs = leBytes bs % r ∧
    fpP.fromLeBytesModOrder bs = leBytes bs % p := by
  have go {F ml} (h : Params F ml) := FP.fromLeBytesModOrder_spec F h.n8_pos h.fspt bs
  exact ⟨go fq_ok, go fr_ok, go fp_ok⟩

theorem from_be_bytes_mod_order_spec (bs : List ℕ) :
    fqP.fromBeBytesModOrder bs = leBytes bs.reverse % q ∧ frP.fromBeBytesModOrder bs = leBytes bs.reverse % r ∧
    fpP.fromBeBytesModOrder bs = leBytes bs.reverse % p :=
  from_le_bytes_mod_order_spec bs.reverse

/-- **checked parsing accepts exactly the integers below p** (all three fields) -/
theorem from_bytes_checked_iff (bs : List ℕ) (hb : ∀ b ∈ bs, b < 256) (v : ℕ) :
    (bs.length = 32 → (fqP.fromBytesChecked bs = some v ↔ leBytes bs < q ∧ v = leBytes bs)) ∧
    (bs.length = 32 → (frP.fromBytesChecked bs = some v ↔ leBytes bs < r ∧ v = leBytes bs)) ∧
    (bs.length = 48 → (fpP.fromBytesChecked bs = some v ↔ leBytes bs < p ∧ v = leBytes bs)) := by
  have go {F ml} (h : Params F ml) (hl : bs.length = F.n8) := FP.fromBytesChecked_iff F h.le_bytes h.m_pos bs hl hb v
  exact ⟨go fq_ok, go fr_ok, go fp_ok⟩

theorem toBytesLe_canonical {F : FP} {ml : List ℕ} (h : Params F ml) {x : ℕ} (hx : x < F.m) :
    (F.toBytesLe x).length = F.n8 ∧ leBytes (F.toBytesLe x) = x ∧ F.fromBytesChecked (F.toBytesLe x) = some x :=
  ⟨(FP.toBytesLe_spec F h.le_bytes x hx).1, (FP.toBytesLe_spec F h.le_bytes x hx).2.1,
    FP.fromBytesChecked_toBytesLe F h.le_bytes h.m_pos x hx⟩

/-- **serialisation emits the canonical little-endian form**, which parses back to the same element -/
theorem to_bytes_canonical (x : ℕ) :
    (x < q → (fqP.toBytesLe x).length = 32 ∧ leBytes (fqP.toBytesLe x) = x ∧ fqP.fromBytesChecked (fqP.toBytesLe x) = some x) ∧
    (x < r → (frP.toBytesLe x).length = 32 ∧ leBytes (frP.toBytesLe x) = x ∧ frP.fromBytesChecked (frP.toBytesLe x) = some x) ∧
    (x < p → (fpP.toBytesLe x).length = 48 ∧ leBytes (fpP.toBytesLe x) = x ∧ fpP.fromBytesChecked (fpP.toBytesLe x) = some x) :=
  ⟨toBytesLe_canonical fq_ok, toBytesLe_canonical fr_ok, toBytesLe_canonical fp_ok⟩

/-- **ordering is integer ordering** -/
theorem ord_spec (F : FP) (hF : F.m < (2 ^ 64) ^ F.nl) (a b : ℕ) (ha : a < F.m) (hb : b < F.m) :
    F.cmp a b = compare a b := by
  rw [FP.cmp, FP.toLeLimbs, FP.toLeLimbs,
    FP.cmpLex_reverse 64 _ _ (by simp only [toLimbs_length]) (toLimbs_lt _ _ _) (toLimbs_lt _ _ _),
    ofLimbs_toLimbs_of_lt (ha.trans hF), ofLimbs_toLimbs_of_lt (hb.trans hF)]

theorem ord_spec_all (a b : ℕ) :
    (a < q → b < q → fqP.cmp a b = compare a b) ∧ (a < r → b < r → frP.cmp a b = compare a b) ∧
    (a < p → b < p → fpP.cmp a b = compare a b) :=
  ⟨ord_spec fqP fq_ok.lt_limbs a b, ord_spec frP fr_ok.lt_limbs a b, ord_spec fpP fp_ok.lt_limbs a b⟩

/-- **`from_bigint` accepts exactly the limb arrays denoting integers below p** -/
theorem from_bigint_iff (F : FP) (modLimbs ls : List ℕ) (hm : Lit.ofLimbs 64 modLimbs = F.m)
    (hml : ∀ l ∈ modLimbs, l < 2 ^ 64) (hl : ls.length = modLimbs.length) (hls : ∀ l ∈ ls, l < 2 ^ 64) (v : ℕ) :
    F.fromBigint ls modLimbs = some v ↔ Lit.ofLimbs 64 ls < F.m ∧ v = Lit.ofLimbs 64 ls := by
  rw [FP.fromBigint, FP.fromLeLimbs, FP.cmpLex_reverse 64 ls modLimbs hl hls hml, hm]
  by_cases hlt : Lit.ofLimbs 64 ls < F.m
  · simp [Nat.compare_eq_lt.mpr hlt, hlt, Nat.mod_eq_of_lt hlt, eq_comm]
  · simp [hlt, mt Nat.compare_eq_lt.mp hlt]

theorem fromBigint_toLimbs {F : FP} {ml : List ℕ} (hm : Lit.ofLimbs 64 ml = F.m) (hml : ∀ l ∈ ml, l < 2 ^ 64)
    (hnl : ml.length = F.nl) (hF : F.m < (2 ^ 64) ^ F.nl) {x : ℕ} (hx : x < F.m) :
    F.fromBigint (toLimbs 64 x F.nl) ml = some x := by
  rw [from_bigint_iff F ml _ hm hml (by rw [toLimbs_length, hnl]) (toLimbs_lt _ _ _), ofLimbs_toLimbs_of_lt (hx.trans hF)]
  exact ⟨hx, rfl⟩

/-- hashing is consistent with equality: the hash input is the canonical byte string -/
theorem hash_spec (x y : ℕ) (hx : x < q) (hy : y < q) : fqP.toBytesLe x = fqP.toBytesLe y ↔ x = y :=
  ⟨fun h => by rw [← (toBytesLe_canonical fq_ok hx).2.1, h, (toBytesLe_canonical fq_ok hy).2.1], fun h => h ▸ rfl⟩

/-- non-vacuity: strings longer than two chunks, and the modulus itself -/
example : fqP.fromLeBytesModOrder (List.replicate 100 255) = (256 ^ 100 - 1) % q := by decide +kernel
example : fqP.fromBytesChecked (toLeBytes q 32) = none ∧ fqP.fromBytesChecked (toLeBytes (q - 1) 32) = some (q - 1) := by
  decide +kernel

/-- the flag byte patterns the three arkworks flag types emit: kind 0 `EmptyFlags`, 1 `TEFlags`, 2 `SWFlags` -/
def flagMask (kind flag : ℕ) : ℕ :=
  match kind, flag with
  | 1, 1 => 128
  | 2, 1 => 128
  | 2, 2 => 64
  | _, _ => 0

def flagOk (kind flag : ℕ) : Prop := (kind = 0 ∧ flag = 0) ∨ (kind = 1 ∧ flag ≤ 1) ∨ (kind = 2 ∧ flag ≤ 2)

def wideMask (k flag : ℕ) : ℕ := if k ≥ 8 then flag % 256 else (flag % 2 ^ k) * 2 ^ (8 - k)

/-- the model spells `F::BIT_SIZE` out flag type by flag type -/
theorem flagBitsOf_eq (kind : ℕ) : FP.flagBitsOf kind = kind := by
  unfold FP.flagBitsOf
  split <;> rfl

/-- a flags type other than `SWFlags` keeps its `k` bits on top of the byte: the flag is the quotient, the rest the remainder -/
theorem flagsFromU8_generic {k : ℕ} (hk : k ≠ 2) {v : ℕ} (hv : v < 256) :
    FP.flagsFromU8 k v = some (v / 2 ^ (8 - k), v % 2 ^ (8 - k)) := by
  match k, hk with
  | 0, _ => simp [FP.flagsFromU8, Nat.div_eq_of_lt hv, Nat.mod_eq_of_lt hv]
  | 1, _ => rfl
  | _ + 3, _ => rfl

theorem lor_mul_two_pow {i b : ℕ} (hb : b < 2 ^ i) (c : ℕ) : Nat.lor b (c * 2 ^ i) = 2 ^ i * c + b :=
  Nat.mul_comm .. ▸ ((Nat.two_pow_add_eq_or_of_lt hb c).trans (Nat.or_comm ..)).symm

theorem flagsFromU8_lor {k : ℕ} (hk : k ≠ 2) (hk8 : k ≤ 8) {flag b : ℕ} (hf : flag < 2 ^ k) (hb : b < 2 ^ (8 - k)) :
    FP.flagsFromU8 k (Nat.lor b (flag * 2 ^ (8 - k))) = some (flag, b) := by
  have hv : 2 ^ (8 - k) * flag + b < 256 := by
    calc _ < 2 ^ (8 - k) * (flag + 1) := by rw [Nat.mul_succ]; omega
      _ ≤ 2 ^ (8 - k) * 2 ^ k := Nat.mul_le_mul_left _ hf
      _ = 256 := by rw [← pow_add, Nat.sub_add_cancel hk8]; rfl
  rw [lor_mul_two_pow hb, flagsFromU8_generic hk hv, Nat.mul_add_div (Nat.two_pow_pos _), Nat.div_eq_of_lt hb,
    Nat.mul_add_mod, Nat.mod_eq_of_lt hb, Nat.add_zero]

/-- `SWFlags`: bit 7 = negative (flag 1), bit 6 = infinity (flag 2) -/
theorem flagsFromU8_sw {b : ℕ} (hb : b < 64) {c flag : ℕ} (hc : (c, flag) ∈ [(0, 0), (2, 1), (1, 2)]) :
    FP.flagsFromU8 2 (Nat.lor b (c * 2 ^ 6)) = some (flag, b) := by
  rw [show Nat.lor b (c * 2 ^ 6) = 64 * c + b from lor_mul_two_pow (i := 6) hb c]
  have h2 : (64 * c + b) / 64 = c := by rw [Nat.mul_add_div (by decide), Nat.div_eq_of_lt hb, Nat.add_zero]
  have h1 : (64 * c + b) / 128 = c / 2 := by rw [show 128 = 64 * 2 from rfl, ← Nat.div_div_eq_div_mul, h2]
  have h3 : (64 * c + b) % 64 = b := by rw [Nat.mul_add_mod, Nat.mod_eq_of_lt hb]
  simp only [FP.flagsFromU8, h1, h2, h3]
  simp only [List.mem_cons, Prod.mk.injEq, List.not_mem_nil, or_false] at hc
  rcases hc with ⟨rfl, rfl⟩ | ⟨rfl, rfl⟩ | ⟨rfl, rfl⟩ <;> rfl

theorem flags_byte {kind flag : ℕ} (hk : flagOk kind flag) {b : ℕ} (hb : b < 2 ^ (8 - kind)) :
    FP.flagsFromU8 kind (Nat.lor b (flagMask kind flag)) = some (flag, b) := by
  rcases hk with ⟨rfl, rfl⟩ | ⟨rfl, hf⟩ | ⟨rfl, hf⟩
  · exact flagsFromU8_lor (k := 0) (flag := 0) (by decide) (by decide) (by decide) hb
  · interval_cases flag
    · exact flagsFromU8_lor (k := 1) (flag := 0) (by decide) (by decide) (by decide) hb
    · exact flagsFromU8_lor (k := 1) (flag := 1) (by decide) (by decide) (by decide) hb
  · interval_cases flag
    · exact flagsFromU8_sw (c := 0) hb (by decide)
    · exact flagsFromU8_sw (c := 2) hb (by decide)
    · exact flagsFromU8_sw (c := 1) hb (by decide)

theorem flags_byte_wide {k : ℕ} (h3 : 3 ≤ k) (h8 : k ≤ 8) {flag : ℕ} (hf : flag < 2 ^ k) {b : ℕ} (hb : b < 2 ^ (8 - k)) :
    FP.flagsFromU8 k (Nat.lor b (wideMask k flag)) = some (flag, b) := by
  have e : wideMask k flag = flag * 2 ^ (8 - k) := by
    unfold wideMask
    split
    · next h => obtain rfl := Nat.le_antisymm h8 h; exact (Nat.mod_eq_of_lt hf).trans (Nat.mul_one _).symm
    · rw [Nat.mod_eq_of_lt hf]
  exact e ▸ flagsFromU8_lor (by omega) h8 hf hb

theorem leBytes_take_append_zero (B : List ℕ) (k : ℕ) : leBytes ((B ++ [0]).take k) = leBytes (B.take k) := by
  rw [List.take_append, leBytes_append]
  cases k - B.length <;> simp [leBytes]

/-- the decoder on a string of exactly the expected length: the flags are split off its last byte `v`, and what is left
is read in a buffer of `N_8 + 1` bytes -/
theorem deserWide_snoc {F : FP} {kind : ℕ} {ml pre : List ℕ} {v flag last x : ℕ}
    (hpre : pre.length + 1 = (F.bits + kind + 7) / 8) (hv : FP.flagsFromU8 kind v = some (flag, last))
    (hx : F.fromBigint (toLimbs 64 (leBytes ((pre ++ [last] ++ List.replicate (F.n8 - pre.length) 0).take (8 * F.nl))) F.nl) ml
      = some x) :
    F.deserWithFlagsWide kind (pre ++ [v]) ml = .ok (x, flag) := by
  have hT : (pre ++ [v]).take (pre.length + 1) = pre ++ [v] := List.take_of_length_le List.length_append.le
  have hG : (pre ++ [v]).getD pre.length 0 = v := by rw [List.getD_eq_getElem?_getD, List.getElem?_concat_length]; rfl
  unfold FP.deserWithFlagsWide
  simp only [flagBitsOf_eq, ← hpre, List.length_append, List.length_singleton, lt_irrefl, if_false, Nat.add_sub_cancel,
    hT, hG, hv, List.take_left' rfl, Nat.add_sub_add_right]
  exact hx ▸ rfl

/-- a value of `bits` bits (`n + 1` bytes) with `k ≤ 8` flag bits takes `n + 1` bytes, the top one with `8 - k` bits to
spare, or `n + 2` bytes -/
theorem stream_size {bits k n : ℕ} (hn : (bits + 7) / 8 = n + 1) (hk : k ≤ 8) :
    bits ≤ 8 * n + 8 ∧ ((bits + k + 7) / 8 = n + 1 ∧ bits ≤ 8 * n + (8 - k) ∨ (bits + k + 7) / 8 = n + 2) := by
  omega

theorem lt_bytes_mul {x bits k j : ℕ} (hx : x < 2 ^ bits) (h : bits ≤ 8 * k + j) : x < 256 ^ k * 2 ^ j :=
  calc x < 2 ^ bits := hx
    _ ≤ 2 ^ (8 * k + j) := Nat.pow_le_pow_right (by norm_num) h
    _ = 256 ^ k * 2 ^ j := by rw [pow_add, pow_mul]; rfl

/-- **serialisation with flags round-trips value and flags**, for any flags type whose byte splits as `hbyte` says and any
value of at most `bits` bits whose limbs `from_bigint` accepts: the flags share the top byte when they fit into its spare
bits, and take one more byte when they do not -/
theorem deserWide_ser {F : FP} {ml : List ℕ} (hn : 0 < F.n8) (h8 : F.n8 ≤ 8 * F.nl) {kind flag mask : ℕ} (hk8 : kind ≤ 8)
    (hbyte : ∀ b < 2 ^ (8 - kind), FP.flagsFromU8 kind (Nat.lor b mask) = some (flag, b)) {x : ℕ} (hxb : x < 2 ^ F.bits)
    (hx : F.fromBigint (toLimbs 64 x F.nl) ml = some x) :
    ∃ bytes, F.serWithFlags x kind mask = some bytes ∧ bytes.length = (F.bits + kind + 7) / 8 ∧
      F.deserWithFlagsWide kind bytes ml = .ok (x, flag) := by
  obtain ⟨n, hn8⟩ := Nat.exists_eq_add_one_of_ne_zero hn.ne'
  obtain ⟨hbits, hsize⟩ := stream_size (bits := F.bits) hn8 hk8
  have hlen : (F.toBytesLe x).length = n + 1 := hn8 ▸ toLeBytes_length x _
  have hsucc : F.toBytesLe x = toLeBytes x n ++ [x / 256 ^ n % 256] := by rw [FP.toBytesLe, hn8, toLeBytes_succ]
  have hlen' : (toLeBytes x n).length = n := toLeBytes_length x n
  -- in both cases the decoder's buffer holds the value bytes and a zero byte: the cleared flag byte, or its spare byte
  have hval : F.fromBigint (toLimbs 64 (leBytes ((F.toBytesLe x ++ [0]).take (8 * F.nl))) F.nl) ml = some x := by
    rwa [leBytes_take_append_zero, List.take_of_length_le ((hlen.trans hn8.symm).trans_le h8), FP.toBytesLe, hn8,
      leBytes_toLeBytes x _ ((lt_bytes_mul hxb hbits).trans_eq (pow_succ 256 n).symm)]
  unfold FP.serWithFlags
  rw [if_neg (Nat.not_lt.mpr hk8)]
  rcases hsize with ⟨hfit, hspare⟩ | hfit
  · -- the flags share the top byte
    have hb : x / 256 ^ n % 256 < 2 ^ (8 - kind) :=
      lt_of_le_of_lt (Nat.mod_le _ _) (Nat.div_lt_of_lt_mul (lt_bytes_mul hxb hspare))
    refine ⟨toLeBytes x n ++ [Nat.lor (x / 256 ^ n % 256) mask], ?_, by simp [hlen', hfit],
      deserWide_snoc (hlen'.symm ▸ hfit.symm) (hbyte _ hb) ?_⟩
    · simp [hfit, hsucc, hlen']
    · rw [← hsucc, hlen', hn8, Nat.add_sub_cancel_left]
      exact hval
  · -- one more byte carries them
    have h0 := hbyte 0 (Nat.two_pow_pos _)
    rw [show Nat.lor 0 mask = mask from Nat.zero_or _] at h0
    refine ⟨F.toBytesLe x ++ [mask], ?_, by simp [hlen, hfit], deserWide_snoc (hlen.symm ▸ hfit.symm) h0 ?_⟩
    · simp [hlen, hfit]
    · rw [hlen, hn8, Nat.sub_self, List.replicate_zero, List.append_nil]
      exact hval

/-- when the flags add no byte, `deserWithFlags` is `deserWithFlagsWide` for the three standard flag types too -/
theorem deserWithFlags_eq_wide (F : FP) (kind : ℕ) (input ml : List ℕ) (hfit : (F.bits + kind + 7) / 8 = (F.bits + 7) / 8) :
    F.deserWithFlags kind input ml = F.deserWithFlagsWide kind input ml := by
  unfold FP.deserWithFlags
  split
  · rfl
  · -- the two differ by the spare zero byte of the wide decoder's buffer
    unfold FP.deserWithFlagsWide
    simp only [flagBitsOf_eq, hfit, gt_iff_lt, lt_irrefl, if_false, Nat.sub_self, List.replicate_zero, List.append_nil,
      Nat.add_sub_cancel_left, List.replicate_one, leBytes_take_append_zero]

/-- **serialisation with flags round-trips value and flags** (any field whose top byte has two spare bits, which is
the case for Fq, Fr and Fp; every flag value of the three standard flag types) -/
theorem flags_roundtrip (F : FP) (modLimbs : List ℕ) (hm : Lit.ofLimbs 64 modLimbs = F.m) (hml : ∀ l ∈ modLimbs, l < 2 ^ 64)
    (hnl : modLimbs.length = F.nl) (hn : 0 < F.n8) (hbits : F.bits + 2 ≤ 8 * F.n8) (h8 : F.n8 ≤ 8 * F.nl)
    (hmb : F.m ≤ 2 ^ F.bits) (hF : F.m < (2 ^ 64) ^ F.nl)
    (kind flag : ℕ) (hk : flagOk kind flag) (x : ℕ) (hx : x < F.m) :
    ∃ bytes, F.serWithFlags x (FP.flagBitsOf kind) (flagMask kind flag) = some bytes ∧ bytes.length = F.n8 ∧
      F.deserWithFlags kind bytes modLimbs = .ok (x, flag) := by
  have hfb : kind ≤ 2 := by rcases hk with ⟨rfl, _⟩ | ⟨rfl, _⟩ | ⟨rfl, _⟩ <;> decide
  have hfit : (F.bits + kind + 7) / 8 = (F.bits + 7) / 8 := by unfold FP.n8 at hbits; omega
  obtain ⟨bytes, hs, hl, hd⟩ := deserWide_ser hn h8 (by omega) (fun _ => flags_byte hk) (hx.trans_le hmb)
    (fromBigint_toLimbs hm hml hnl hF hx)
  rw [flagBitsOf_eq]
  exact ⟨bytes, hs, hl.trans hfit, (deserWithFlags_eq_wide F kind bytes modLimbs hfit).trans hd⟩

theorem flags_roundtrip_all (kind flag : ℕ) (hk : flagOk kind flag) (x : ℕ) :
    (x < fqP.m → ∃ bytes, fqP.serWithFlags x (FP.flagBitsOf kind) (flagMask kind flag) = some bytes ∧ bytes.length = fqP.n8 ∧
      fqP.deserWithFlags kind bytes Gen.fields_fq.Fq.MODULUS_LIMBS.nats = .ok (x, flag)) ∧
    (x < frP.m → ∃ bytes, frP.serWithFlags x (FP.flagBitsOf kind) (flagMask kind flag) = some bytes ∧ bytes.length = frP.n8 ∧
      frP.deserWithFlags kind bytes Gen.fields_fr.Fr.MODULUS_LIMBS.nats = .ok (x, flag)) ∧
    (x < fpP.m → ∃ bytes, fpP.serWithFlags x (FP.flagBitsOf kind) (flagMask kind flag) = some bytes ∧ bytes.length = fpP.n8 ∧
      fpP.deserWithFlags kind bytes Gen.fields_fp.Fp.MODULUS_LIMBS.nats = .ok (x, flag)) := by
  have go {F ml} (h : Params F ml) := flags_roundtrip F ml h.ml_val h.ml_lt h.ml_len h.n8_pos h.spare h.limbs h.le_bits
    h.lt_limbs kind flag hk x
  exact ⟨go fq_ok, go fr_ok, go fp_ok⟩

/-- **serialisation with a user-defined flags type of 3 … 8 bits round-trips value and flags** (any field).  When the
flags do not fit into the spare bits of the top byte the stream has one extra byte — the case in which
`deserialize_with_flags` indexed past its buffer before the repair dca9ca3. -/
theorem flags_roundtrip_wide {F : FP} {ml : List ℕ} (h : Params F ml) (k flag : ℕ) (hk3 : 3 ≤ k) (hk8 : k ≤ 8)
    (hf : flag < 2 ^ k) (x : ℕ) (hx : x < F.m) :
    ∃ bytes, F.serWithFlags x k (wideMask k flag) = some bytes ∧ F.deserWithFlags k bytes ml = .ok (x, flag) := by
  obtain ⟨bytes, hs, -, hd⟩ := deserWide_ser h.n8_pos h.limbs hk8 (fun _ => flags_byte_wide hk3 hk8 hf)
    (hx.trans_le h.le_bits) (fromBigint_toLimbs h.ml_val h.ml_lt h.ml_len h.lt_limbs hx)
  exact ⟨bytes, hs, by rw [FP.deserWithFlags, if_pos (by omega), hd]⟩

theorem flags_roundtrip_wide_all (k flag : ℕ) (hk3 : 3 ≤ k) (hk8 : k ≤ 8) (hf : flag < 2 ^ k) (x : ℕ) :
    (x < fqP.m → ∃ bytes, fqP.serWithFlags x k (wideMask k flag) = some bytes ∧
      fqP.deserWithFlags k bytes Gen.fields_fq.Fq.MODULUS_LIMBS.nats = .ok (x, flag)) ∧
    (x < frP.m → ∃ bytes, frP.serWithFlags x k (wideMask k flag) = some bytes ∧
      frP.deserWithFlags k bytes Gen.fields_fr.Fr.MODULUS_LIMBS.nats = .ok (x, flag)) ∧
    (x < fpP.m → ∃ bytes, fpP.serWithFlags x k (wideMask k flag) = some bytes ∧
      fpP.deserWithFlags k bytes Gen.fields_fp.Fp.MODULUS_LIMBS.nats = .ok (x, flag)) :=
  ⟨flags_roundtrip_wide fq_ok k flag hk3 hk8 hf x, flags_roundtrip_wide fr_ok k flag hk3 hk8 hf x,
    flags_roundtrip_wide fp_ok k flag hk3 hk8 hf x⟩

/-- non-vacuity: a 4-bit flags type on Fq needs the extra byte (33 bytes), a 3-bit one does not -/
example : (fqP.bits + 4 + 7) / 8 = fqP.n8 + 1 ∧ (fqP.bits + 3 + 7) / 8 = fqP.n8 := by decide +kernel

def decVal (s : List Char) : ℕ := s.foldl (fun a c => 10 * a + (c.toNat - 48)) 0

/-- **`FromStr`**: a string of decimal digits parses to the integer it denotes, reduced mod p (so leading zeros, values
≥ p and arbitrarily long strings are all covered); any other character makes parsing fail; the empty string is 0 -/
theorem from_str_spec (F : FP) (s : List Char) :
    F.fromStr s = if s.all Char.isDigit then some (decVal s % F.m) else none := by
  have step (n d : ℕ) : fadd F.m (fmul F.m 10 (n % F.m)) d = (10 * n + d) % F.m := by
    rw [fadd, fmul, Nat.mul_mod_mod, Nat.mod_add_mod]
  unfold FP.fromStr decVal
  -- from the right: one more character is one more step of both folds
  induction s using List.reverseRecOn with
  | nil => exact congrArg some (Nat.zero_mod _).symm
  | append_singleton s c ih =>
    rw [List.foldl_append, ih, List.foldl_append, List.all_append]
    cases s.all Char.isDigit
    · rfl
    · simp only [if_true, List.foldl_cons, List.foldl_nil, step, Bool.true_and, List.all_cons, List.all_nil, Bool.and_true]

theorem decVal_eq_ofDigitChars (s : List Char) : decVal s = Nat.ofDigitChars 10 s 0 := rfl

/-- **Display then FromStr is the identity** on canonical values: zero prints as the empty string, which parses to 0;
any other value prints as its decimal digits -/
theorem display_from_str (F : FP) (x : ℕ) (hx : x < F.m) : F.fromStr (FP.display x).toList = some x := by
  rw [from_str_spec, FP.display]
  split
  · next h0 => rw [beq_iff_eq.mp h0]; exact congrArg some (Nat.zero_mod _)
  · rw [Nat.toString_eq_repr, Nat.toList_repr,
      if_pos (List.all_eq_true.mpr fun _ => Nat.isDigit_of_mem_toDigits (by decide) (by decide)),
      decVal_eq_ofDigitChars, Nat.ofDigitChars_toDigits (by decide) (by decide), Nat.mod_eq_of_lt hx]

end C11
