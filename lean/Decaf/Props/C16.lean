/-
C16 — BLS12-377 engine over the crate's own fields equals the reference engine (partial: parameters).

What is proved: every parameter of the engine the crate instantiates (`Bls12<Config>` over its own Fp/Fq) is
equal to the corresponding literal of the reference crate `ark-bls12-377` (read from that crate's source in the
cargo registry by the same translator), and satisfies its defining equation: Frobenius coefficients are the
stated powers of the non-residues, the generators lie on their curves, G1's generator has order q, cofactor
formulae, the BLS12 family polynomials for p and q.  All by kernel evaluation of the table `Model.C16.facts`; for the
three Frobenius tables the kernel evaluates the recurrence c(i+1) = c(i)^p · c(1) and `frobOk_of_chain`
(Lemmas/Fp2.lean) turns it into the defining powers ξ^((k·p^i − k)/den), whose exponents grow to twelve times the
length of p; for the order of G1's generator it evaluates q·G in projective coordinates, without the inversion by a Fermat
power that every addition of the model's affine `swMul` makes, and `swMul_eq_none` (Lemmas/SwProj.lean) carries the result over.
Since both engines are the same generic arkworks code instantiated with equal parameters over fields that agree
(C10/C11), this is equality of the engines up to parametricity, which is stated, not formalised.  Bilinearity
and non-degeneracy are inherited from the reference implementation and checked only differentially.
-/
import Decaf.Lemmas.Fp2
import Decaf.Lemmas.SwProj
import Decaf.Props.C17

open Model.C16 Gen in
theorem C16.frobenius_fp6_c1 :
    frobOk ((arrOf ark_curve_bls12_377.Fp6Config_F6Config.FROBENIUS_COEFF_FP6_C1).map fp2Of) xi 1 3 = true :=
  frobOk_of_chain (c1 := fp2Of ((arrOf ark_curve_bls12_377.Fp6Config_F6Config.FROBENIUS_COEFF_FP6_C1).getD 1 .zero))
    (E := (Model.p - 1) / 3) (hden := by decide) (hE := by decide +kernel) (h1 := by decide +kernel) (h0 := by decide +kernel)
    (hc := by decide +kernel)

open Model.C16 Gen in
theorem C16.frobenius_fp6_c2 :
    frobOk ((arrOf ark_curve_bls12_377.Fp6Config_F6Config.FROBENIUS_COEFF_FP6_C2).map fp2Of) xi 2 3 = true :=
  frobOk_of_chain (c1 := fp2Of ((arrOf ark_curve_bls12_377.Fp6Config_F6Config.FROBENIUS_COEFF_FP6_C2).getD 1 .zero))
    (E := (2 * Model.p - 2) / 3) (hden := by decide) (hE := by decide +kernel) (h1 := by decide +kernel) (h0 := by decide +kernel)
    (hc := by decide +kernel)

open Model.C16 Gen in
theorem C16.frobenius_fp12_c1 :
    frobOk ((arrOf ark_curve_bls12_377.Fp12Config_F12Config.FROBENIUS_COEFF_FP12_C1).map fp2Of) xi 1 6 = true :=
  frobOk_of_chain (c1 := fp2Of ((arrOf ark_curve_bls12_377.Fp12Config_F12Config.FROBENIUS_COEFF_FP12_C1).getD 1 .zero))
    (E := (Model.p - 1) / 6) (hden := by decide) (hE := by decide +kernel) (h1 := by decide +kernel) (h0 := by decide +kernel)
    (hc := by decide +kernel)

theorem C16.facts_count : Model.C16.facts.length = 28 := by decide +kernel

open Model.C16 in
theorem C16.g1_order : (swMul g1 Model.q == none) = true :=
  beq_iff_eq.mpr (swMul_eq_none (by decide +kernel) (by decide +kernel))

theorem C16.all_parameter_facts_hold : ∀ f ∈ Model.C16.facts, f.2 = true := by
  unfold Model.C16.facts
  rw [C16.frobenius_fp6_c1, C16.frobenius_fp6_c2, C16.frobenius_fp12_c1, C16.g1_order]
  decide +kernel

gen_fact_theorems C16 Model.C16.facts 28 (Model.fact_of_all C16.all_parameter_facts_hold C16.facts_count)
