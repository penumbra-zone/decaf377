/-
C17 — Published constants are consistent with the moduli and curve they describe.

`Model.C17.facts` states every fact over the *generated* constants, i.e. over what /repo's source says now.
`C17.all_facts_hold` evaluates the whole table once in the kernel (`decide +kernel`: GMP naturals, no
`native_decide`, no extra axiom); `C17.fact_i`, the theorem of the i-th entry, is read off it by position, and
`facts_count` ties the number of these theorems to the length of the list.
Primality of the three moduli is proved in `Decaf.Lemmas.Primes` by Pratt certificates, whose last lines carry the
factorisations of m − 1 with every factor checked to be prime.  The primitive-root facts here use the `factors` lists of
Model/ConstFacts.lean: the same numbers, typed there a second time and checked for their product only.
-/
import Lean
import Decaf.Model.ConstFacts

/-- an entry of a table all of whose entries hold, by position -/
theorem Model.fact_of_all {l : List (String × Bool)} (h : ∀ f ∈ l, f.2 = true) {n : Nat} (hn : l.length = n)
    (i : Nat) (hi : decide (i < n) = true) : (List.getD l i ("", false)).2 = true := by
  subst hn
  have hi := of_decide_eq_true hi
  rw [List.getD_eq_getElem?_getD, List.getElem?_eq_getElem hi]
  exact h _ (List.getElem_mem hi)

open Lean Elab Command in
/-- `gen_fact_theorems C17 Model.C17.facts 98 pf` emits, for `i < 98`,
`theorem C17.fact_i : (facts.getD i ("",false)).2 = true := pf i rfl` -/
elab "gen_fact_theorems " ns:ident facts:ident n:num pf:term : command => do
  for i in [0:n.getNat] do
    let nm := mkIdent (ns.getId.str s!"fact_{i}")
    elabCommand (← `(theorem $nm : (List.getD $facts $(quote i) ("", false)).2 = true := $pf $(quote i) rfl))

theorem C17.facts_count : Model.C17.facts.length = 98 := by decide +kernel

theorem C17.all_facts_hold : ∀ f ∈ Model.C17.facts, f.2 = true := by decide +kernel

gen_fact_theorems C17 Model.C17.facts 98 (Model.fact_of_all C17.all_facts_hold C17.facts_count)
