/-
C06 — Every public constructor yields a valid group element.

`Valid c`: the quadruple represents a point of the even subgroup 𝔾 (the image of the decaf377 group in E).
By C01 (`valid_roundtrip`) a valid element's encoding decodes to an element equal to it.  One lemma per
constructor: the constants, the decoders (every entry point reduces to `decode32`), the samplers (they return the
first candidate that decodes — for EVERY stream of candidates), the affine/projective conversions, and
`from_random_bytes` (after the repair: the double of a curve point).  The order clause ("r times it is the
identity") is `valid_order`, from C05's `order_dvd` (proved in full, DESIGN.md §5.7).
-/
import Decaf.BuildsCmd
import Decaf.Props.C07
import Decaf.Props.C05
import Decaf.Model.Exec

namespace C06
open Model Model.Exec Edwards Decaf

def Valid (c : Ext) : Prop := ∃ pt : E, ERepr c pt ∧ Point.IsEven pt

variable {sr : SR}

/-- what validity buys: the encoding decodes to an equal element -/
theorem valid_roundtrip (h : SRContract sr) {c : Ext} (hv : Valid c) :
    ∃ bytes c', Ext.encode sr c = some bytes ∧ decode32 sr bytes = .ok c' ∧ Ext.eq c c' = true ∧ Valid c' := by
  obtain ⟨pt, hr, he⟩ := hv
  obtain ⟨bytes, c', pt', henc, hdec, hr', hcos, heq⟩ := C01.decode_encode h hr he
  exact ⟨bytes, c', henc, hdec, heq, pt', hr', Point.isEven_of_coset hcos he⟩

/-- what validity buys, second half: r times the element is the identity, with either backend's ladder -/
theorem valid_order {c : Ext} (hv : Valid c) :
    Ext.eq Ext.identity (c.scalarMulMin C05.rLimbs) = true ∧ Ext.eq Ext.identity (c.scalarMulRef C05.rLimbs) = true := by
  obtain ⟨pt, hr, he⟩ := hv
  exact C05.order_dvd_eq hr he

theorem generator_valid : Valid ⟨C17.bx, C17.by', 1, C17.bt⟩ := ⟨C04.genPoint, C04.gen_repr, C01.generator_even⟩
theorem identity_valid : Valid Ext.identity := ⟨0, identity_repr, Point.isEven_zero⟩

theorem decode_valid (h : SRContract sr) (bytes : List ℕ) {c : Ext} (hc : decode32 sr bytes = .ok c) : Valid c := by
  obtain ⟨pt, hr, _, he, _, _⟩ := C02.decode_eq_spec h bytes hc
  exact ⟨pt, hr, he⟩

theorem decodeSlice_valid (h : SRContract sr) (bytes : List ℕ) {c : Ext} (hc : decodeSlice sr bytes = .ok c) : Valid c := by
  by_cases hl : bytes.length = 32
  · rw [C02.decodeSlice_32 bytes hl] at hc; exact decode_valid h bytes hc
  · rw [C02.decodeSlice_length bytes hl] at hc; cases hc

/-- the rejection sampler (rand.rs): the first candidate string that decodes; whatever the RNG produces -/
def sample (sr : SR) (candidates : List (List ℕ)) : Option Ext :=
  candidates.findSome? (fun b => match decode32 sr b with | .ok c => some c | .error _ => none)

theorem sampler_valid (h : SRContract sr) (candidates : List (List ℕ)) {c : Ext} (hc : sample sr candidates = some c) :
    Valid c := by
  unfold sample at hc
  obtain ⟨b, _, hb⟩ := List.exists_of_findSome?_eq_some hc
  cases hd : decode32 sr b with
  | ok c' => rw [hd] at hb; injection hb with hb; subst hb; exact decode_valid h b hd
  | error e => rw [hd] at hb; exact absurd hb (by simp)

/-- `into_affine` / `From<Element> for AffinePoint` and back, `normalize_batch`, `batch_convert_to_mul_base`:
normalisation to Z = 1 represents the same point -/
theorem affine_roundtrip_valid {c : Ext} (hv : Valid c) : Valid (Ext.ofAffine c.affine) := by
  obtain ⟨pt, hr, he⟩ := hv
  have := affine_cast hr
  exact ⟨pt, ofAffine_repr this.1 this.2, he⟩

theorem elligator_valid (h : SRContract sr) (r0 : ℕ) {c : Ext} (hc : elligator sr ZETA r0 = some c) : Valid c := by
  obtain ⟨pt, hr, _, hev⟩ := C07.elligator_spec_of_eq h hc
  exact ⟨pt, hr, hev⟩

/-- validity is closed under the group operations (both backends) -/
theorem add_valid {c1 c2 : Ext} (h1 : Valid c1) (h2 : Valid c2) : Valid (Ext.addMin c1 c2) ∧ Valid (Ext.addRef c1 c2) := by
  obtain ⟨p1, r1, e1⟩ := h1
  obtain ⟨p2, r2, e2⟩ := h2
  exact ⟨⟨p1 + p2, addMin_repr r1 r2, Point.isEven_add e1 e2⟩, ⟨p1 + p2, addRef_repr r1 r2, Point.isEven_add e1 e2⟩⟩

theorem neg_valid {c : Ext} (h : Valid c) : Valid (Ext.neg c) := by
  obtain ⟨p, r, e⟩ := h
  exact ⟨-p, neg_repr r, Point.isEven_neg e⟩

/-! ### from_random_bytes -/

/-- arkworks' generic Tonelli–Shanks: whatever it returns is a root (0 for 0; otherwise it checks `x² == a` before
returning) -/
theorem sqrtTS_is_root (m s zq : ℕ) (e : List ℕ) {a x : ℕ} (h : sqrtTS m s zq e a = some (some x)) : fmul m x x = a := by
  unfold sqrtTS at h
  split at h
  · rename_i ha
    cases h
    rw [eq_of_beq ha]; rfl
  · simp only [] at h
    split at h
    · cases h
    · cases h
    · split at h
      · rename_i hchk
        cases h
        exact eq_of_beq hchk
      · cases h

theorem fqSqrt_is_root {a x : ℕ} (h : fqSqrt a = some (some x)) : fmul q x x = a := by
  unfold fqSqrt at h
  exact sqrtTS_is_root _ _ _ _ h

/-- a root of (1 - y²)/(a - d·y²), with either sign, is the x-coordinate of a curve point with that y; the double of
that point is what is handed out -/
theorem double_of_root_valid {x x' y : ℕ} (hden : fsub q cA (fmul q (fsq q y) cD) ≠ 0)
    (hx : fmul q x x = fmul q (finv q (fsub q cA (fmul q (fsq q y) cD))) (fsub q 1 (fsq q y)))
    (hx' : x' = x ∨ x' = fneg q x) : Valid (Ext.doubleRef (Ext.ofAffine (x', y))) := by
  have hon : OnCurve params.d ((x' : ℕ) : Fq) ((y : ℕ) : Fq) := by
    have hd := mt (cast_eq_zero_iff (fsub_lt q_pos _ _)).mp hden
    have hx2 := congrArg (Nat.cast : ℕ → Fq) hx
    have hx'2 : ((x' : ℕ) : Fq) ^ 2 = (x : Fq) * x := by
      rcases hx' with rfl | rfl
      · exact sq _
      · rw [cast_fneg, neg_sq, sq]
    simp only [fq] at hd hx2
    rw [← hx'2, eq_inv_mul_iff_mul_eq₀ hd] at hx2
    unfold OnCurve
    rw [params_d]
    linear_combination hx2
  exact ⟨_, doubleRef_repr (ofAffine_repr (pt := ⟨_, _, hon⟩) rfl rfl), Point.isEven_double _⟩

/-- `AffineRepr::from_random_bytes` hands out only valid elements, for every byte string -/
theorem from_random_bytes_valid (bytes : List ℕ) {c : Ext} (hc : fromRandomBytes bytes = some c) : Valid c := by
  unfold fromRandomBytes at hc
  -- the `let`s become local definitions: zeta-reducing them in `hc` would have the kernel compare two `match`es on
  -- `fqSqrt …`, which it does by evaluating the square root on an open term
  extract_lets y y2 num den at hc
  split at hc
  · cases hc
  · rename_i hden
    split at hc
    · rename_i x hsq
      rw [← Option.some.inj hc]
      refine double_of_root_valid (by simpa using hden) (fqSqrt_is_root hsq) ?_
      split
      · exact .inl rfl
      · exact .inr rfl
    · cases hc

end C06

instantiate_builds C06.valid_roundtrip
instantiate_builds C06.decode_valid
instantiate_builds C06.decodeSlice_valid
instantiate_builds C06.sampler_valid
instantiate_builds C06.elligator_valid
