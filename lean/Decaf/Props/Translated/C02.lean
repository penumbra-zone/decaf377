/-
C02 stated about the translated decoders (`Code.arkDecode`, `Code.minDecode`: the bodies of
`Encoding::vartime_decompress` in the two backends, regenerated into Lean on every run).
-/
import Decaf.Props.C02
import Decaf.Lemmas.Formulas.Decompress
import Decaf.Lemmas.Formulas.ConvForms

namespace C02.Translated
open Model Edwards Decaf

variable {sr : SR}

theorem accepts_iff_arkcode (h : SRContract sr) (bytes : List ℕ) :
    (∃ c, Code.arkDecode sr bytes = .ok c) ↔ leBytes bytes < q ∧ ∃ pt : E, DecSpec (leBytes bytes) pt := by
  rw [Code.arkDecode_eq]; exact C02.decode_accepts_iff h bytes

theorem accepts_iff_mincode (h : SRContract sr) (bytes : List ℕ) :
    (∃ c, Code.minDecode sr bytes = .ok c) ↔ leBytes bytes < q ∧ ∃ pt : E, DecSpec (leBytes bytes) pt := by
  rw [Code.minDecode_eq]; exact C02.decode_accepts_iff h bytes

theorem eq_spec_arkcode (h : SRContract sr) (bytes : List ℕ) {c : Ext} (hc : Code.arkDecode sr bytes = .ok c) :
    ∃ pt : E, ERepr c pt ∧ DecSpec (leBytes bytes) pt ∧ Point.IsEven pt ∧ c.Z = 1 ∧ c.X < q := by
  rw [Code.arkDecode_eq] at hc; exact C02.decode_eq_spec h bytes hc

theorem eq_spec_mincode (h : SRContract sr) (bytes : List ℕ) {c : Ext} (hc : Code.minDecode sr bytes = .ok c) :
    ∃ pt : E, ERepr c pt ∧ DecSpec (leBytes bytes) pt ∧ Point.IsEven pt ∧ c.Z = 1 ∧ c.X < q := by
  rw [Code.minDecode_eq] at hc; exact C02.decode_eq_spec h bytes hc

/-- never a panic: every rejection is the encoding error -/
theorem error_is_encoding_arkcode (h : SRContract sr) (bytes : List ℕ) {e : DecErr} (he : Code.arkDecode sr bytes = .error e) :
    e = .encoding := by
  rw [Code.arkDecode_eq] at he; exact C02.decode_error_is_encoding h bytes he

theorem error_is_encoding_mincode (h : SRContract sr) (bytes : List ℕ) {e : DecErr} (he : Code.minDecode sr bytes = .error e) :
    e = .encoding := by
  rw [Code.minDecode_eq] at he; exact C02.decode_error_is_encoding h bytes he

theorem rejects_minus_one_arkcode (h : SRContract sr) (bytes : List ℕ) (hv : leBytes bytes = q - 1) :
    ¬ ∃ c, Code.arkDecode sr bytes = .ok c := by
  rw [Code.arkDecode_eq]; exact C02.rejects_minus_one h bytes hv

theorem rejects_minus_one_mincode (h : SRContract sr) (bytes : List ℕ) (hv : leBytes bytes = q - 1) :
    ¬ ∃ c, Code.minDecode sr bytes = .ok c := by
  rw [Code.minDecode_eq]; exact C02.rejects_minus_one h bytes hv

/-- **every decoding entry point** (`TryFrom<&[u8]>`, `TryFrom<[u8; 32]>`, `TryFrom<Encoding>`, `TryFrom<&Encoding>` for
`Element`, both backends): over the translated decoder of
either backend, slices give exactly `decodeSlice` (same verdict, same element, any other length the length error) and
fixed-size inputs exactly `decode32` -/
theorem entry_points (bytes : List ℕ) :
    (∀ f ∈ (Gen.ConvForms.decodeSliceForms : List (String × ((List ℕ → Except DecErr Ext) → DecErr → DecErr → List ℕ → Except DecErr Ext))),
        f.2 (Code.arkDecode sr) .length .encoding bytes = decodeSlice sr bytes ∧
        f.2 (Code.minDecode sr) .length .encoding bytes = decodeSlice sr bytes) ∧
    (∀ f ∈ (Gen.ConvForms.decodeFixedForms : List (String × ((List ℕ → Except DecErr Ext) → List ℕ → Except DecErr Ext))),
        f.2 (Code.arkDecode sr) bytes = decode32 sr bytes ∧ f.2 (Code.minDecode sr) bytes = decode32 sr bytes) := by
  rw [Code.arkDecode_eq, Code.minDecode_eq]
  have hs : (if bytes.length = 32 then decode32 sr bytes else .error .length) = decodeSlice sr bytes := by
    split_ifs with h
    exacts [(C02.decodeSlice_32 bytes h).symm, (C02.decodeSlice_length bytes h).symm]
  refine ⟨fun f hf => ?_, fun f hf => ?_⟩
  · rw [Formulas.ConvForms.decodeSliceForms_correct f hf]; exact ⟨hs, hs⟩
  · rw [Formulas.ConvForms.decodeFixedForms_correct f hf]; exact ⟨rfl, rfl⟩

/-- **stream deserialisation of elements and of affine points** (`CanonicalDeserialize for Element | AffinePoint`)
over the translated arkworks decoder: in (Compress::Yes, Validate::Yes)
mode it accepts exactly when `decode32` accepts the first 32 bytes delivered, with the same element; a short stream is
the io error, any rejection `InvalidData`; the other three modes are the `unimplemented!()` panic -/
theorem stream_entry_points (compress validate : Bool) (inp : List ℕ) :
    ∀ f ∈ (Gen.ConvForms.deserElementForms : List (String × ((List ℕ → Except DecErr Ext) → Bool → Bool → List ℕ → Except Gen.ConvForms.SerErr Ext))),
      f.2 (Code.arkDecode sr) compress validate inp =
        if compress && validate then
          (if inp.length < 32 then .error .io else
            match decode32 sr (inp.take 32) with | .ok el => .ok el | .error _ => .error .invalidData)
        else .error .panic := by
  intro f hf
  rw [Formulas.ConvForms.deserElementForms_correct f hf, Code.arkDecode_eq]
  cases decode32 sr (List.take 32 inp) <;> rfl     -- the `match` here and the one in the lemma are two auxiliary definitions

/-- `TryFrom<&[u8]> for Encoding`: the 32 bytes themselves, or the length error -/
theorem encoding_of_slice (bytes : List ℕ) :
    ∀ f ∈ (Gen.ConvForms.encodingOfSliceForms : List (String × (DecErr → DecErr → List ℕ → Except DecErr (List ℕ)))),
      f.2 .length .encoding bytes = if bytes.length = 32 then .ok bytes else .error .length :=
  fun f hf => Formulas.ConvForms.encodingOfSliceForms_correct f hf _ _ bytes

end C02.Translated

instantiate_builds C02.Translated.accepts_iff_arkcode ark
instantiate_builds C02.Translated.accepts_iff_mincode min
instantiate_builds C02.Translated.eq_spec_arkcode ark
instantiate_builds C02.Translated.eq_spec_mincode min
instantiate_builds C02.Translated.error_is_encoding_arkcode ark
instantiate_builds C02.Translated.error_is_encoding_mincode min
instantiate_builds C02.Translated.rejects_minus_one_arkcode ark
instantiate_builds C02.Translated.rejects_minus_one_mincode min
