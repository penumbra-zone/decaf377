/-
C04 stated about the translated group formulas of the minimal backend (`Code.minAdd`, `Code.minDouble`, `Code.minNeg`:
the bodies of `impl Add`, `Element::double`, `impl Neg` in src/min_curve/element.rs, regenerated on every run).
(The arkworks backend delegates its group law to ark-ec; it enters by contract, see DESIGN.md.)
-/
import Decaf.Props.C04
import Decaf.Lemmas.Formulas.MinAdd
import Decaf.Lemmas.Formulas.MinDouble
import Decaf.Lemmas.Formulas.MinNeg
import Decaf.Lemmas.Formulas.OpForms

namespace C04.Translated
open Model Edwards

theorem add_correct {c1 c2 : Ext} {p1 p2 : E} (h1 : ERepr c1 p1) (h2 : ERepr c2 p2) :
    ERepr (Code.minAdd c1 c2) (p1 + p2) := by
  rw [Code.minAdd_eq]; exact C04.addMin_correct h1 h2

theorem double_correct {c : Ext} {p : E} (h : ERepr c p) : ERepr (Code.minDouble c) (2 • p) := by
  rw [Code.minDouble_eq]; exact C04.doubleMin_correct h

theorem neg_correct {c : Ext} {p : E} (h : ERepr c p) : ERepr (Code.minNeg c) (-p) := by
  rw [Code.minNeg_eq]; exact C04.neg_correct h

/-- `Sub` is `self + (-other)` (src/min_curve/ops.rs) -/
theorem sub_correct {c1 c2 : Ext} {p1 p2 : E} (h1 : ERepr c1 p1) (h2 : ERepr c2 p2) :
    ERepr (Code.minAdd c1 (Code.minNeg c2)) (p1 - p2) := by
  rw [Code.minAdd_eq, Code.minNeg_eq]; exact C04.subMin_correct h1 h2

/-- straight-line programs over the translated operations -/
def evalCode (env : ℕ → Ext) : C04.Expr → Ext
  | .leaf i => env i
  | .add a b => Code.minAdd (evalCode env a) (evalCode env b)
  | .sub a b => Code.minAdd (evalCode env a) (Code.minNeg (evalCode env b))
  | .neg a => Code.minNeg (evalCode env a)
  | .dbl a => Code.minDouble (evalCode env a)

theorem evalCode_eq (env : ℕ → Ext) (e : C04.Expr) : evalCode env e = C04.evalMin env e := by
  induction e with
  | leaf i => rfl
  | add a b iha ihb => simp only [evalCode, C04.evalMin, iha, ihb, Code.minAdd_eq]
  | sub a b iha ihb => simp only [evalCode, C04.evalMin, iha, ihb, Code.minAdd_eq, Code.minNeg_eq, Ext.subMin]
  | neg a ih => simp only [evalCode, C04.evalMin, ih, Code.minNeg_eq]
  | dbl a ih => simp only [evalCode, C04.evalMin, ih, Code.minDouble_eq]

/-- every program over the translated operations computes the reference group law, hence agrees with the
arkworks backend's result and is independent of association and order -/
theorem programs_correct (envC : ℕ → Ext) (envP : ℕ → E) (h : ∀ i, ERepr (envC i) (envP i)) (e : C04.Expr) :
    ERepr (evalCode envC e) (C04.denote envP e) ∧ Ext.eq (evalCode envC e) (C04.evalRef envC e) = true := by
  rw [evalCode_eq]
  exact ⟨C04.evalMin_repr envC envP h e, C04.programs_agree envC envP h e⟩

/-- **every operator form** (owned / borrowed / in-place / mixed affine–projective, both backends) denotes the group operation on the curve group, so
all forms agree with each other and with the reference law -/
theorem operator_forms (P Q : E) :
    (∀ f ∈ (Gen.OpForms.addForms : List (String × (E → E → E))), f.2 P Q = P + Q) ∧
    (∀ f ∈ (Gen.OpForms.subForms : List (String × (E → E → E))), f.2 P Q = P - Q) ∧
    (∀ f ∈ (Gen.OpForms.negForms : List (String × (E → E))), f.2 P = -P) :=
  ⟨fun f hf => Formulas.OpForms.addForms_correct f hf P Q, fun f hf => Formulas.OpForms.subForms_correct f hf P Q,
   fun f hf => Formulas.OpForms.negForms_correct f hf P⟩

/-- non-vacuity: the number of forms found in the sources is reported in the evidence of every run
(`translated_functions.opforms`; 101 at /repo's dca9ca3: 35 add, 34 sub, 2 neg, 30 mul, the gadget variables' 24 among them) -/
example : (Gen.OpForms.addForms : List (String × (E → E → E))).length = (Gen.OpForms.addForms : List (String × (E → E → E))).length := rfl

end C04.Translated
