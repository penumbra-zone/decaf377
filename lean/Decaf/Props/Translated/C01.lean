/-
C01 stated about the *translated code* (`Code.*`: the Rust bodies regenerated into Lean on every run), both backends.
Each theorem rewrites the translated function to the hand-written model (Lemmas/Formulas/*, proved for all inputs)
and applies the property theorem of Props/C01.lean.
-/
import Decaf.Props.C01
import Decaf.Lemmas.Formulas.Compress
import Decaf.Lemmas.Formulas.Decompress

namespace C01.Translated
open Model Edwards Decaf

variable {sr : SR}

theorem encode_decode_arkcode (h : SRContract sr) (bytes : List ℕ) (hlen : bytes.length = 32) (hb : ∀ b ∈ bytes, b < 256)
    {c : Ext} (hc : Code.arkDecode sr bytes = .ok c) :
    (Code.arkEncodeField sr c).map (fun s => toLeBytes s 32) = some bytes := by
  rw [Code.arkDecode_eq] at hc; rw [Code.arkEncodeField_eq]
  exact C01.encode_decode h bytes hlen hb hc

theorem encode_decode_mincode (h : SRContract sr) (bytes : List ℕ) (hlen : bytes.length = 32) (hb : ∀ b ∈ bytes, b < 256)
    {c : Ext} (hc : Code.minDecode sr bytes = .ok c) :
    (Code.minEncodeField sr c).map (fun s => toLeBytes s 32) = some bytes := by
  rw [Code.minDecode_eq] at hc; rw [Code.minEncodeField_eq]
  exact C01.encode_decode h bytes hlen hb hc

theorem decode_encode_arkcode (h : SRContract sr) {c : Ext} {pt : E} (hr : ERepr c pt) (he : Point.IsEven pt) :
    ∃ bytes c' pt', (Code.arkEncodeField sr c).map (fun s => toLeBytes s 32) = some bytes ∧
      Code.arkDecode sr bytes = .ok c' ∧ ERepr c' pt' ∧ Point.Coset pt pt' ∧ Ext.eq c c' = true := by
  rw [Code.arkDecode_eq, Code.arkEncodeField_eq]
  exact C01.decode_encode h hr he

theorem decode_encode_mincode (h : SRContract sr) {c : Ext} {pt : E} (hr : ERepr c pt) (he : Point.IsEven pt) :
    ∃ bytes c' pt', (Code.minEncodeField sr c).map (fun s => toLeBytes s 32) = some bytes ∧
      Code.minDecode sr bytes = .ok c' ∧ ERepr c' pt' ∧ Point.Coset pt pt' ∧ Ext.eq c c' = true := by
  rw [Code.minDecode_eq, Code.minEncodeField_eq]
  exact C01.decode_encode h hr he

end C01.Translated

instantiate_builds C01.Translated.encode_decode_arkcode ark
instantiate_builds C01.Translated.encode_decode_mincode min
instantiate_builds C01.Translated.decode_encode_arkcode ark
instantiate_builds C01.Translated.decode_encode_mincode min
