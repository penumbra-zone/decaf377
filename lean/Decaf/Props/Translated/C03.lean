/-
C03 stated about the translated encoders and equality tests (`Code.arkEncodeField`, `Code.minEncodeField`,
`Code.arkEq`, `Code.minEq`: Rust bodies regenerated into Lean on every run).
-/
import Decaf.Props.C03
import Decaf.Lemmas.Formulas.Compress
import Decaf.Lemmas.Formulas.Eq
import Decaf.Lemmas.Formulas.ConvForms

namespace C03.Translated
open Model Edwards Decaf

variable {sr sr' : SR}

theorem encode_eq_spec_arkcode (h : SRContract sr) {c : Ext} {pt : E} (hr : ERepr c pt) (he : Point.IsEven pt) :
    ∃ s, Code.arkEncodeField sr c = some s ∧ s < q ∧ EncSpec pt s := by
  rw [Code.arkEncodeField_eq]; exact C03.encode_eq_spec h hr he

theorem encode_eq_spec_mincode (h : SRContract sr) {c : Ext} {pt : E} (hr : ERepr c pt) (he : Point.IsEven pt) :
    ∃ s, Code.minEncodeField sr c = some s ∧ s < q ∧ EncSpec pt s := by
  rw [Code.minEncodeField_eq]; exact C03.encode_eq_spec h hr he

theorem encode_total_arkcode (h : SRContract sr) (c : Ext) : ∃ s, Code.arkEncodeField sr c = some s ∧ s < q := by
  rw [Code.arkEncodeField_eq]; exact C03.encode_total h c

theorem encode_total_mincode (h : SRContract sr) (c : Ext) : ∃ s, Code.minEncodeField sr c = some s ∧ s < q := by
  rw [Code.minEncodeField_eq]; exact C03.encode_total h c

/-- equal (by the translated `==`) iff equal encodings (by the translated encoder) -/
theorem eq_iff_encode_eq_arkcode (h : SRContract sr) {c c' : Ext} {p p' : E} (hr : ERepr c p) (hr' : ERepr c' p')
    (he : Point.IsEven p) (he' : Point.IsEven p') :
    Code.arkEq c c' = true ↔ Code.arkEncodeField sr c = Code.arkEncodeField sr c' := by
  rw [Code.arkEq_eq, Code.arkEncodeField_eq]; exact C03.eq_iff_encode_eq h hr hr' he he'

theorem eq_iff_encode_eq_mincode (h : SRContract sr) {c c' : Ext} {p p' : E} (hr : ERepr c p) (hr' : ERepr c' p')
    (he : Point.IsEven p) (he' : Point.IsEven p') :
    Code.minEq c c' = true ↔ Code.minEncodeField sr c = Code.minEncodeField sr c' := by
  rw [Code.minEq_eq, Code.minEncodeField_eq]; exact C03.eq_iff_encode_eq h hr hr' he he'

/-- every encoding conversion (`From<Element>` / `From<&Element>` for `Encoding`, `From<Element>` for `[u8; 32]`, both
backends) is the encoder, and the byte-array conversions (`[u8; 32]` ↔ `Encoding`) are the identity -/
theorem encode_entry_points {α : Type} (enc : α → List ℕ) (e : α) (bytes : List ℕ) :
    (∀ f ∈ (Gen.ConvForms.encodeForms : List (String × ((α → List ℕ) → α → List ℕ))), f.2 enc e = enc e) ∧
    (∀ f ∈ (Gen.ConvForms.bytesForms : List (String × (List ℕ → List ℕ))), f.2 bytes = bytes) :=
  ⟨fun f hf => Formulas.ConvForms.encodeForms_correct f hf enc e, fun f hf => Formulas.ConvForms.bytesForms_correct f hf bytes⟩

/-- every stream serialiser (`CanonicalSerialize for Encoding | Element | AffinePoint`): the declared
size is 32 in compressed mode (a panic otherwise), an `Encoding` writes exactly its bytes, an `Element` / `AffinePoint` exactly
the encoder's output -/
theorem serialize_entry_points {α : Type} (enc : α → List ℕ) (e : α) (bytes : List ℕ) (mode : Bool) :
    (∀ f ∈ Gen.ConvForms.serSizeForms, f.2 true = .ok 32 ∧ f.2 false = .error .panic) ∧
    (∀ f ∈ Gen.ConvForms.serEncodingForms, f.2 mode bytes = .ok bytes) ∧
    (∀ f ∈ (Gen.ConvForms.serElementForms : List (String × ((α → List ℕ) → Bool → α → Except Gen.ConvForms.SerErr (List ℕ)))),
      f.2 enc mode e = .ok (enc e)) :=
  ⟨fun f hf => ⟨Formulas.ConvForms.serSizeForms_correct f hf true, Formulas.ConvForms.serSizeForms_correct f hf false⟩,
   fun f hf => Formulas.ConvForms.serEncodingForms_correct f hf mode bytes,
   fun f hf => Formulas.ConvForms.serElementForms_correct f hf enc mode e⟩

end C03.Translated

instantiate_builds C03.Translated.encode_eq_spec_arkcode ark
instantiate_builds C03.Translated.encode_eq_spec_mincode min
instantiate_builds C03.Translated.encode_total_arkcode ark
instantiate_builds C03.Translated.encode_total_mincode min
instantiate_builds C03.Translated.eq_iff_encode_eq_arkcode ark
instantiate_builds C03.Translated.eq_iff_encode_eq_mincode min
