/-
C08 stated about the translated equality and identity tests (`impl PartialEq` of `Element` in both backends and of
`AffinePoint`, `is_identity` in both backends; regenerated on every run).
-/
import Decaf.Props.C08
import Decaf.Lemmas.Formulas.Eq
import Decaf.Lemmas.Formulas.ConvForms
import Decaf.Props.C03

namespace C08.Translated
open Model Edwards Decaf
variable {sr : SR}

theorem arkEq_iff_coset {c1 c2 : Ext} {p1 p2 : E} (h1 : ERepr c1 p1) (h2 : ERepr c2 p2) :
    Code.arkEq c1 c2 = true ↔ Point.Coset p1 p2 := by
  rw [Code.arkEq_eq]; exact C08.eq_iff_coset h1 h2

theorem arkAffineEq_iff_coset {c1 c2 : Ext} {p1 p2 : E} (h1 : ERepr c1 p1) (h2 : ERepr c2 p2) :
    Code.arkAffineEq c1 c2 = true ↔ Point.Coset p1 p2 := by
  rw [Code.arkAffineEq_eq]; exact C08.eq_iff_coset h1 h2

theorem minEq_iff_coset {c1 c2 : Ext} {p1 p2 : E} (h1 : ERepr c1 p1) (h2 : ERepr c2 p2) :
    Code.minEq c1 c2 = true ↔ Point.Coset p1 p2 := by
  rw [Code.minEq_eq]; exact C08.eq_iff_coset h1 h2

theorem identity_predicates_agree_arkcode {c : Ext} {p : E} (h : ERepr c p) (hX : c.X < q) :
    (Code.arkIsIdentity c = true ↔ Code.arkEq c Ext.identity = true) ∧ (Code.arkIsIdentity c = true ↔ Point.Coset 0 p) := by
  rw [Code.arkIsIdentity_eq, Code.arkEq_eq]; exact C08.identity_predicates_agree h hX

theorem identity_predicates_agree_mincode {c : Ext} {p : E} (h : ERepr c p) (hX : c.X < q) :
    (Code.minIsIdentity c = true ↔ Code.minEq c Ext.identity = true) ∧ (Code.minIsIdentity c = true ↔ Point.Coset 0 p) := by
  rw [Code.minIsIdentity_eq, Code.minEq_eq]; exact C08.identity_predicates_agree h hX

/-- every translated `Hash` impl (`Element`, `AffinePoint`) feeds the hasher exactly the encoder's
output -/
theorem hash_input_forms {α β : Type} (enc raw : α → β) (e : α) :
    ∀ f ∈ (Gen.ConvForms.hashForms : List (String × ((α → β) → (α → β) → α → β))), f.2 enc raw e = enc e :=
  fun f hf => Formulas.ConvForms.hashForms_correct f hf enc raw e

/-- **equal elements hash equally, and only they do (up to collisions of the hasher)**: for any two representations of
even points, and any two of the translated `Hash` impls (so also an `Element` against an `AffinePoint`), the hasher inputs
coincide exactly when the library's equality holds -/
theorem hash_input_eq_iff (h : SRContract sr) {c c' : Ext} {p p' : E} (hr : ERepr c p) (hr' : ERepr c' p')
    (he : Point.IsEven p) (he' : Point.IsEven p') :
    ∀ (raw raw' : Ext → Option ℕ),
    ∀ f ∈ (Gen.ConvForms.hashForms : List (String × ((Ext → Option ℕ) → (Ext → Option ℕ) → Ext → Option ℕ))),
    ∀ g ∈ (Gen.ConvForms.hashForms : List (String × ((Ext → Option ℕ) → (Ext → Option ℕ) → Ext → Option ℕ))),
      (f.2 (Ext.encodeField sr) raw c = g.2 (Ext.encodeField sr) raw' c' ↔ Ext.eq c c' = true) := by
  intro raw raw' f hf g hg
  rw [hash_input_forms _ _ _ f hf, hash_input_forms _ _ _ g hg]
  exact (C03.eq_iff_encode_eq h hr hr' he he').symm

/-- the byte form of the same statement, in the direction `Hash` must satisfy: equal elements, equal bytes into the hasher -/
theorem hash_bytes_respect_eq (h : SRContract sr) {c c' : Ext} {p p' : E} (hr : ERepr c p) (hr' : ERepr c' p')
    (he : Point.IsEven p) (he' : Point.IsEven p') (heq : Ext.eq c c' = true) :
    ∀ (raw raw' : Ext → Option (List ℕ)),
    ∀ f ∈ (Gen.ConvForms.hashForms : List (String × ((Ext → Option (List ℕ)) → (Ext → Option (List ℕ)) → Ext → Option (List ℕ)))),
    ∀ g ∈ (Gen.ConvForms.hashForms : List (String × ((Ext → Option (List ℕ)) → (Ext → Option (List ℕ)) → Ext → Option (List ℕ)))),
      f.2 (Ext.encode sr) raw c = g.2 (Ext.encode sr) raw' c' := by
  intro raw raw' f hf g hg
  rw [hash_input_forms _ _ _ f hf, hash_input_forms _ _ _ g hg]
  unfold Ext.encode
  rw [(C03.eq_iff_encode_eq h hr hr' he he').mp heq]

end C08.Translated

instantiate_builds C08.Translated.hash_input_eq_iff ark
instantiate_builds C08.Translated.hash_bytes_respect_eq ark
