/-
C09 stated about the translated square-root routines: `Code.arkSqrtRatioZeta` (the whole straight-line main routine of
the table-driven `Fq::sqrt_ratio_zeta`, src/ark_curve/invsqrt.rs) and `Code.minSqrtRatioZeta` (`Fq::non_arkworks_sqrt_ratio_zeta`,
src/min_curve/invsqrt.rs, with its two loops `pow_le_limbs` and `our_sqrt`), both regenerated into Lean on every run.
The tables (`gtab`, `sLookup`) are the hand-written model, tied by the correspondence check.
-/
import Decaf.Props.C09
import Decaf.Lemmas.Formulas.ArkSqrt

namespace C09.Translated
open Model

/-- the translated table-driven routine meets the four-case contract on all of Fq × Fq (in particular: no lookup misses) -/
theorem ark_contract : SRContract Code.arkSqrtRatioZeta := by
  rw [Code.arkSqrtRatioZeta_eq]; exact C09.ark_contract

/-- the translated top level of the minimal routine meets the four-case contract -/
theorem min_contract : SRContract Code.minSqrtRatioZeta := by
  rw [Code.minSqrtRatioZeta_eq]; exact C09.min_contract

/-- the two translated routines agree: same flag, roots of the same square -/
theorem routines_agree {n d : ℕ} (hn : n < q) (hd : d < q) :
    ∃ f y y', Code.arkSqrtRatioZeta n d = some (f, y) ∧ Code.minSqrtRatioZeta n d = some (f, y') ∧
      (y : Fq) ^ 2 * (d : Fq) = (y' : Fq) ^ 2 * (d : Fq) := by
  rw [Code.arkSqrtRatioZeta_eq, Code.minSqrtRatioZeta_eq]; exact C09.routines_agree hn hd

end C09.Translated
