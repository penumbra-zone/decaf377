/-
C07 stated about the translated Elligator maps (`Code.arkElligator`, `Code.minElligator`: the bodies of
`Element::elligator_map` in the two backends, regenerated on every run) and the translated addition.
-/
import Decaf.Props.C07
import Decaf.Lemmas.Formulas.Elligator
import Decaf.Lemmas.Formulas.MinAdd
import Decaf.Lemmas.Formulas.HashToCurve

namespace C07.Translated
open Model Edwards Decaf

variable {sr sr' : SR}

theorem minElligator_eq' : @Code.minElligator = fun sr r0 => elligator sr ZETA r0 := by
  rw [Code.minElligator_eq, zeta_min_eq]

theorem eq_spec_arkcode (h : SRContract sr) (r0 : ℕ) :
    ∃ c pt, Code.arkElligator sr r0 = some c ∧ ERepr c pt ∧
      ElligatorTo params paritySign ((ZETA : ℕ) : Fq) (r0 : Fq) pt.x pt.y ∧ Point.IsEven pt := by
  rw [Code.arkElligator_eq]; exact C07.elligator_eq_spec h r0

theorem eq_spec_mincode (h : SRContract sr) (r0 : ℕ) :
    ∃ c pt, Code.minElligator sr r0 = some c ∧ ERepr c pt ∧
      ElligatorTo params paritySign ((ZETA : ℕ) : Fq) (r0 : Fq) pt.x pt.y ∧ Point.IsEven pt := by
  rw [minElligator_eq']; exact C07.elligator_eq_spec h r0

/-- the two builds' translated maps return the same element -/
theorem builds_agree (h : SRContract sr) (h' : SRContract sr') (r0 : ℕ) {c c' : Ext}
    (hc : Code.arkElligator sr r0 = some c) (hc' : Code.minElligator sr' r0 = some c') : Ext.eq c c' = true := by
  rw [Code.arkElligator_eq] at hc; rw [minElligator_eq'] at hc'
  exact C07.elligator_builds_agree h h' r0 hc hc'

/-- minimal build: the two-input hash (`&R_1 + &R_2` over the translated addition) is the group sum -/
theorem hash_to_curve_mincode (h : SRContract sr) (r1 r2 : ℕ) :
    ∃ c1 c2 p1 p2, Code.minElligator sr r1 = some c1 ∧ Code.minElligator sr r2 = some c2 ∧ ERepr c1 p1 ∧ ERepr c2 p2 ∧
      ERepr (Code.minAdd c1 c2) (p1 + p2) ∧ Point.IsEven (p1 + p2) := by
  rw [minElligator_eq', Code.minAdd_eq]
  obtain ⟨c1, c2, p1, p2, h1, h2, e1, e2, ha, _, hev⟩ := C07.hash_to_curve_eq h r1 r2
  exact ⟨c1, c2, p1, p2, h1, h2, e1, e2, ha, hev⟩

/-- the translated body of `hash_to_curve` itself (arkworks build): total, and the group sum of the two one-input images -/
theorem hash_to_curve_body_arkcode (h : SRContract sr) (r1 r2 : ℕ) :
    ∃ c1 c2 c p1 p2, Code.arkElligator sr r1 = some c1 ∧ Code.arkElligator sr r2 = some c2 ∧ ERepr c1 p1 ∧ ERepr c2 p2 ∧
      Code.arkHashToCurve sr r1 r2 = some c ∧ ERepr c (p1 + p2) ∧ Point.IsEven (p1 + p2) := by
  rw [Code.arkElligator_eq, Code.arkHashToCurve_eq]
  obtain ⟨c1, c2, p1, p2, h1, h2, e1, e2, _, hr, hev⟩ := C07.hash_to_curve_eq h r1 r2
  refine ⟨c1, c2, Ext.addRef c1 c2, p1, p2, h1, h2, e1, e2, ?_, hr, hev⟩
  exact hashToCurve_some h1 h2

/-- the translated body of `hash_to_curve` itself (minimal build) -/
theorem hash_to_curve_body_mincode (h : SRContract sr) (r1 r2 : ℕ) :
    ∃ c1 c2 c p1 p2, Code.minElligator sr r1 = some c1 ∧ Code.minElligator sr r2 = some c2 ∧ ERepr c1 p1 ∧ ERepr c2 p2 ∧
      Code.minHashToCurve sr r1 r2 = some c ∧ ERepr c (p1 + p2) ∧ Point.IsEven (p1 + p2) := by
  rw [minElligator_eq', Code.minHashToCurve_eq, zeta_min_eq]
  obtain ⟨c1, c2, p1, p2, h1, h2, e1, e2, hm, _, hev⟩ := C07.hash_to_curve_eq h r1 r2
  refine ⟨c1, c2, Ext.addMin c1 c2, p1, p2, h1, h2, e1, e2, ?_, hm, hev⟩
  exact hashToCurve_some h1 h2

end C07.Translated

instantiate_builds C07.Translated.eq_spec_arkcode ark
instantiate_builds C07.Translated.eq_spec_mincode min
instantiate_builds C07.Translated.builds_agree
instantiate_builds C07.Translated.hash_to_curve_mincode min
instantiate_builds C07.Translated.hash_to_curve_body_arkcode ark
instantiate_builds C07.Translated.hash_to_curve_body_mincode min
