/-
C10 stated about the translated operator forms of the three prime fields (`impl Add/Sub/Mul/Div/Neg/…Assign/Sum/Product
for Fq | Fr | Fp` in src/fields/{fq,fr,fp}/ops.rs; the list is regenerated from the `impl` blocks on every run by
translator/extract_opforms.py): every form denotes the field operation, in `ZMod q`, `ZMod r` and `ZMod p`; and about
the translated `Fq::power` (`power_spec`).
(The base methods `add`, `sub`, `mul`, `neg`, `inverse` of the backend wrappers are exact arithmetic by contract — the
fiat-crypto / arkworks primitives of C10 — and validated by the correspondence check.)
-/
import Decaf.Props.C10
import Decaf.Lemmas.Formulas.OpForms
import Decaf.Lemmas.Formulas.FieldFns

namespace C10.Translated
open Model

/-- "every operator form denotes the field operation", at operands a, b and at the list l -/
def FormsCorrect (K : Type) [Field K] (a b : K) (l : List K) : Prop :=
    (∀ f ∈ (Gen.FieldOpForms.addForms : List (String × (K → K → K))), f.2 a b = a + b) ∧
    (∀ f ∈ (Gen.FieldOpForms.subForms : List (String × (K → K → K))), f.2 a b = a - b) ∧
    (∀ f ∈ (Gen.FieldOpForms.mulForms : List (String × (K → K → K))), f.2 a b = a * b) ∧
    (∀ f ∈ (Gen.FieldOpForms.divForms : List (String × (K → K → K))), f.2 a b = a / b) ∧
    (∀ f ∈ (Gen.FieldOpForms.negForms : List (String × (K → K))), f.2 a = -a) ∧
    (∀ f ∈ (Gen.FieldOpForms.sumForms : List (String × (List K → K))), f.2 l = l.sum) ∧
    (∀ f ∈ (Gen.FieldOpForms.prodForms : List (String × (List K → K))), f.2 l = l.prod)

theorem field_forms {K : Type} [Field K] (a b : K) (l : List K) : FormsCorrect K a b l :=
  ⟨fun f hf => Formulas.FieldOpForms.addForms_correct f hf a b, fun f hf => Formulas.FieldOpForms.subForms_correct f hf a b,
   fun f hf => Formulas.FieldOpForms.mulForms_correct f hf a b, fun f hf => Formulas.FieldOpForms.divForms_correct f hf a b,
   fun f hf => Formulas.FieldOpForms.negForms_correct f hf a, fun f hf => Formulas.FieldOpForms.sumForms_correct f hf l,
   fun f hf => Formulas.FieldOpForms.prodForms_correct f hf l⟩

/-- … in particular in the three fields of the crate (primality of q, r, p: Lemmas/Primes.lean) -/
theorem field_forms_fq (a b : ZMod q) (l : List (ZMod q)) : FormsCorrect (ZMod q) a b l := field_forms a b l
theorem field_forms_fr (a b : ZMod r) (l : List (ZMod r)) : FormsCorrect (ZMod r) a b l := field_forms a b l
theorem field_forms_fp (a b : ZMod p) (l : List (ZMod p)) : FormsCorrect (ZMod p) a b l := field_forms a b l

/-- the empty sum and the empty product (`Product for Fr` folded from ZERO before the repair 26a07ad, DESIGN.md §7 no. 7) -/
theorem empty_sum_prod {K : Type} [Field K] :
    (∀ f ∈ (Gen.FieldOpForms.sumForms : List (String × (List K → K))), f.2 [] = 0) ∧
    (∀ f ∈ (Gen.FieldOpForms.prodForms : List (String × (List K → K))), f.2 [] = 1) :=
  ⟨fun f hf => Formulas.FieldOpForms.sumForms_correct f hf [], fun f hf => Formulas.FieldOpForms.prodForms_correct f hf []⟩

/-- **exponentiation honours the whole multi-limb exponent**: the translated `Fq::power` (src/fields/fq.rs, the loop
`for limb in exp { for i in 0..64 { … } }`) is x to the integer the limbs denote, for any number of limbs -/
theorem power_spec (x : ℕ) (limbs : List ℕ) (h : ∀ l ∈ limbs, l < 2 ^ 64) :
    ((Code.fqPower x limbs : ℕ) : ZMod q) = (x : ZMod q) ^ Lit.ofLimbs 64 limbs := by
  rw [Code.fqPower_eq]; exact C10.power_spec Exec.fqP x limbs h

end C10.Translated
