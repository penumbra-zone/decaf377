/-
C05 stated about the translated code of the minimal backend, twice: about the hand-written ladder `ladderLsbAux` run over
the translated formulas (`scalarMulCode` over `Code.minAdd`, `Code.minDouble`), and about the translated ladder itself
(`Code.minScalarMul`, `Code.minScalarMulVartime`: the loop skeleton of `scalar_mul_both` around its translated body,
Lemmas/Formulas/Ladder.lean).  Then the `Mul` forms, the `Sum` forms and the multiscalar multiplication.
-/
import Decaf.Props.C05
import Decaf.Lemmas.Formulas.MinAdd
import Decaf.Lemmas.Formulas.MinDouble
import Decaf.Lemmas.Formulas.OpForms
import Decaf.Lemmas.Formulas.Ladder

namespace C05.Translated
open Model Edwards

/-- `scalar_mul_both` over the translated `add` and `double` -/
def scalarMulCode (p : Ext) (limbs : List ℕ) : Ext :=
  Ext.ladderLsbAux Code.minAdd Code.minDouble (limbsBits limbs) Ext.identity p

theorem scalarMulCode_eq (p : Ext) (limbs : List ℕ) : scalarMulCode p limbs = p.scalarMulMin limbs := by
  unfold scalarMulCode Ext.scalarMulMin
  rw [Code.minAdd_eq, Code.minDouble_eq]

theorem scalarMul_correct {c : Ext} {p : E} (h : ERepr c p) (limbs : List ℕ) (hl : ∀ l ∈ limbs, l < 2 ^ 64) :
    ERepr (scalarMulCode c limbs) (Lit.ofLimbs 64 limbs • p) := by
  rw [scalarMulCode_eq]; exact C05.scalarMulMin_correct h limbs hl

/-- r times any group element is the identity, as the implementation's own equality test sees it -/
theorem order_dvd {c : Ext} {P : E} (h : ERepr c P) (he : Point.IsEven P) :
    Ext.eq Ext.identity (scalarMulCode c C05.rLimbs) = true := by
  rw [scalarMulCode_eq]; exact (C05.order_dvd_eq h he).1

/-- agreement with the arkworks ladder -/
theorem ladders_agree {c : Ext} {p : E} (h : ERepr c p) (limbs : List ℕ) (hl : ∀ l ∈ limbs, l < 2 ^ 64) :
    Ext.eq (scalarMulCode c limbs) (c.scalarMulRef limbs) = true := by
  rw [scalarMulCode_eq]; exact C05.ladders_agree h limbs hl

/-! the translated ladder itself (`scalar_mul_both` as loop skeleton + translated body; `scalar_mul` = constant-time,
`scalar_mul_vartime` = variable-time instance) -/

theorem scalar_mul_correct {c : Ext} {p : E} (h : ERepr c p) (limbs : List ℕ) (hl : ∀ l ∈ limbs, l < 2 ^ 64) :
    ERepr (Code.minScalarMul c limbs) (Lit.ofLimbs 64 limbs • p) ∧ ERepr (Code.minScalarMulVartime c limbs) (Lit.ofLimbs 64 limbs • p) := by
  rw [Code.minScalarMul_eq, Code.minScalarMulVartime_eq]
  exact ⟨C05.scalarMulMin_correct h limbs hl, C05.scalarMulMin_correct h limbs hl⟩

/-- the constant-time and the variable-time instance return the same quadruple, for every limb list of any length -/
theorem ct_vartime_agree (c : Ext) (limbs : List ℕ) : Code.minScalarMul c limbs = Code.minScalarMulVartime c limbs := by
  rw [Code.minScalarMul_eq, Code.minScalarMulVartime_eq]

theorem scalar_mul_order {c : Ext} {P : E} (h : ERepr c P) (he : Point.IsEven P) :
    Ext.eq Ext.identity (Code.minScalarMulVartime c C05.rLimbs) = true := by
  rw [Code.minScalarMulVartime_eq]; exact (C05.order_dvd_eq h he).1

/-- every `Mul` / `MulAssign` form (element × scalar and scalar × element, owned / borrowed, affine and projective, both
backends) denotes the module action -/
theorem mul_forms (k : ℕ) (P : E) :
    ∀ f ∈ (Gen.OpForms.mulForms : List (String × (ℕ → E → E))), f.2 k P = k • P :=
  fun f hf => Formulas.OpForms.mulForms_correct f hf k P

/-- **multi-scalar multiplication is the sum of the products**: `Element::vartime_multiscalar_mul` (body regenerated on every
run) returns Σ kᵢ • Pᵢ over the pairs its `zip` forms, and every `impl Sum<…> for Element` the group sum of what its iterator
yields (the empty sum is the identity) -/
theorem msm_forms (ks : List ℕ) (Ps : List E) :
    (∀ f ∈ (Gen.OpForms.msmForms : List (String × (List ℕ → List E → E))),
      f.2 ks Ps = (List.zipWith (fun k P => k • P) ks Ps).sum) ∧
    (∀ f ∈ (Gen.OpForms.gsumForms : List (String × (List E → E))), f.2 Ps = Ps.sum) := by
  refine ⟨fun f hf => ?_, fun f hf => Formulas.OpForms.gsumForms_correct f hf Ps⟩
  rw [Formulas.OpForms.msmForms_correct f hf, List.map_zip_eq_zipWith]
  rfl

end C05.Translated
