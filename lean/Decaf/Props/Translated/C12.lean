/-
C12 stated about the translated code of the two backends: the arkworks build's functions and the minimal build's
functions (each regenerated from its own Rust source on every run) return the same results.
-/
import Decaf.Props.C12
import Decaf.Lemmas.Formulas.Compress
import Decaf.Lemmas.Formulas.Decompress
import Decaf.Lemmas.Formulas.Elligator
import Decaf.Lemmas.Formulas.MinAdd
import Decaf.Lemmas.Formulas.MinDouble
import Decaf.Lemmas.Formulas.MinNeg
import Decaf.Lemmas.Formulas.Eq

namespace C12.Translated
open Model Edwards Decaf

variable {sr sr' : SR}

/-- as functions of the square-root routine, the two backends' decoders, encoders and Elligator maps are the same -/
theorem code_identical : @Code.arkDecode = @Code.minDecode ∧ @Code.arkEncodeField = @Code.minEncodeField ∧
    @Code.arkElligator = @Code.minElligator ∧ @Code.arkEq = @Code.minEq ∧ @Code.arkIsIdentity = @Code.minIsIdentity := by
  rw [Code.arkDecode_eq, Code.minDecode_eq, Code.arkEncodeField_eq, Code.minEncodeField_eq, Code.arkElligator_eq,
    Code.minElligator_eq, zeta_min_eq, Code.arkEq_eq, Code.minEq_eq, Code.arkIsIdentity_eq, Code.minIsIdentity_eq]
  exact ⟨rfl, rfl, rfl, rfl, rfl⟩

theorem decode_verdict_agrees (h : SRContract sr) (h' : SRContract sr') (bytes : List ℕ) :
    (∃ c, Code.arkDecode sr bytes = .ok c) ↔ (∃ c, Code.minDecode sr' bytes = .ok c) := by
  rw [Code.arkDecode_eq, Code.minDecode_eq]; exact C12.decode_verdict_agrees h h' bytes

theorem decode_result_agrees (h : SRContract sr) (h' : SRContract sr') (bytes : List ℕ) {c c' : Ext}
    (hc : Code.arkDecode sr bytes = .ok c) (hc' : Code.minDecode sr' bytes = .ok c') : Code.arkEq c c' = true := by
  rw [Code.arkDecode_eq] at hc; rw [Code.minDecode_eq] at hc'; rw [Code.arkEq_eq]
  exact C12.decode_result_agrees h h' bytes hc hc'

theorem decode_error_agrees (h : SRContract sr) (h' : SRContract sr') (bytes : List ℕ) {e e' : DecErr}
    (he : Code.arkDecode sr bytes = .error e) (he' : Code.minDecode sr' bytes = .error e') : e = e' := by
  rw [Code.arkDecode_eq] at he; rw [Code.minDecode_eq] at he'
  exact C12.decode_error_agrees h h' bytes he he'

theorem encode_agrees (h : SRContract sr) (h' : SRContract sr') {c c' : Ext} {p p' : E}
    (hr : ERepr c p) (hr' : ERepr c' p') (he : Point.IsEven p) (hc : Point.Coset p p') :
    Code.arkEncodeField sr c = Code.minEncodeField sr' c' := by
  rw [Code.arkEncodeField_eq, Code.minEncodeField_eq]
  exact C03.encode_respects_element h h' hr hr' he hc

/-- the minimal backend's translated formulas against the arkworks backend's reference law, on every program -/
theorem programs_agree (envC : ℕ → Ext) (envP : ℕ → E) (h : ∀ i, ERepr (envC i) (envP i)) (e : C04.Expr) :
    Ext.eq (Ext.addMin (envC 0) (envC 1)) (Ext.addRef (envC 0) (envC 1)) = true ∧
    Code.minAdd = Ext.addMin ∧ Code.minDouble = Ext.doubleMin ∧ Code.minNeg = Ext.neg ∧
    Ext.eq (C04.evalMin envC e) (C04.evalRef envC e) = true :=
  ⟨C04.backends_agree_add (h 0) (h 1), Code.minAdd_eq, Code.minDouble_eq, Code.minNeg_eq, C12.programs_agree envC envP h e⟩

end C12.Translated

instantiate_builds C12.Translated.decode_verdict_agrees
instantiate_builds C12.Translated.decode_result_agrees
instantiate_builds C12.Translated.decode_error_agrees
instantiate_builds C12.Translated.encode_agrees
