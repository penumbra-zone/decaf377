/-
C06 stated about the translated decoders and Elligator maps: whatever they return is a valid group element.
-/
import Decaf.Props.C06
import Decaf.Lemmas.Formulas.Decompress
import Decaf.Lemmas.Formulas.Elligator

namespace C06.Translated
open Model Edwards Decaf

variable {sr : SR}

theorem decode_valid_arkcode (h : SRContract sr) (bytes : List ℕ) {c : Ext} (hc : Code.arkDecode sr bytes = .ok c) :
    C06.Valid c := by
  rw [Code.arkDecode_eq] at hc; exact C06.decode_valid h bytes hc

theorem decode_valid_mincode (h : SRContract sr) (bytes : List ℕ) {c : Ext} (hc : Code.minDecode sr bytes = .ok c) :
    C06.Valid c := by
  rw [Code.minDecode_eq] at hc; exact C06.decode_valid h bytes hc

theorem elligator_valid_arkcode (h : SRContract sr) (r0 : ℕ) {c : Ext} (hc : Code.arkElligator sr r0 = some c) :
    C06.Valid c := by
  rw [Code.arkElligator_eq] at hc; exact C06.elligator_valid h r0 hc

theorem elligator_valid_mincode (h : SRContract sr) (r0 : ℕ) {c : Ext} (hc : Code.minElligator sr r0 = some c) :
    C06.Valid c := by
  rw [Code.minElligator_eq, zeta_min_eq] at hc; exact C06.elligator_valid h r0 hc

end C06.Translated

instantiate_builds C06.Translated.decode_valid_arkcode ark
instantiate_builds C06.Translated.decode_valid_mincode min
instantiate_builds C06.Translated.elligator_valid_arkcode ark
instantiate_builds C06.Translated.elligator_valid_mincode min
