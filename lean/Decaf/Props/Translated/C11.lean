/-
C11 stated about the translated integer conversions of the three fields (`impl From<u128 | u64 | u32 | u16 | u8 | bool> for
Fq | Fr | Fp` in src/fields/{fq,fr,fp}/ops.rs, 18 impl blocks, re-read on every run by translator/extract_opforms.py):
the integer is split into 64-bit limbs (`as u64`, `>> 64`) and handed to `from_le_limbs`; with `from_le_limbs` denoting the
integer of its limbs (its contract: the field model's `FP.fromLeLimbs` is that integer reduced, by definition, and is tied to
the code by the correspondence check), every form maps every value of its source type to that integer in the field.
Then C11's byte-level theorems about the translated wrappers (`from_bytes_checked`, `from_le_bytes_mod_order`, `to_bytes`).
-/
import Decaf.Props.C11
import Decaf.Lemmas.Formulas.OpForms
import Decaf.Lemmas.Formulas.FieldFns

namespace C11.Translated
open Model

theorem from_int_forms {K : Type} [Field K] (fromLimbs : List ℕ → K)
    (hL : ∀ l, fromLimbs l = ((Formulas.FieldOpForms.limbsVal l : ℕ) : K)) (n : ℕ) (hn : n < 2 ^ 128) :
    ∀ f ∈ (Gen.FieldOpForms.fromIntForms : List (String × ((List ℕ → K) → ℕ → K))), f.2 fromLimbs n = (n : K) :=
  fun f hf => Formulas.FieldOpForms.fromIntForms_correct fromLimbs hL f hf n hn

/-- in the three fields, with the canonical `from_le_limbs` (the cast of the limbs' integer) -/
theorem from_int_forms_fq (n : ℕ) (hn : n < 2 ^ 128) :
    ∀ f ∈ (Gen.FieldOpForms.fromIntForms : List (String × ((List ℕ → ZMod q) → ℕ → ZMod q))),
      f.2 (fun l => ((Formulas.FieldOpForms.limbsVal l : ℕ) : ZMod q)) n = (n : ZMod q) :=
  from_int_forms _ (fun _ => rfl) n hn

theorem from_int_forms_fr (n : ℕ) (hn : n < 2 ^ 128) :
    ∀ f ∈ (Gen.FieldOpForms.fromIntForms : List (String × ((List ℕ → ZMod r) → ℕ → ZMod r))),
      f.2 (fun l => ((Formulas.FieldOpForms.limbsVal l : ℕ) : ZMod r)) n = (n : ZMod r) :=
  from_int_forms _ (fun _ => rfl) n hn

theorem from_int_forms_fp (n : ℕ) (hn : n < 2 ^ 128) :
    ∀ f ∈ (Gen.FieldOpForms.fromIntForms : List (String × ((List ℕ → ZMod p) → ℕ → ZMod p))),
      f.2 (fun l => ((Formulas.FieldOpForms.limbsVal l : ℕ) : ZMod p)) n = (n : ZMod p) :=
  from_int_forms _ (fun _ => rfl) n hn

/-! ### the byte-level wrappers (`from_bytes_checked`, `from_le_bytes_mod_order`, `to_bytes` of `Fq`, `Fr`, `Fp`; bodies
regenerated on every run by translator/extract_fieldfns.py) -/

/-- **checked parsing accepts exactly the integers below the modulus**, on the translated code of all three fields -/
theorem from_bytes_checked_iff (bs : List ℕ) (hb : ∀ b ∈ bs, b < 256) (v : ℕ) :
    (bs.length = 32 → (Code.fqFromBytesChecked bs = some v ↔ leBytes bs < q ∧ v = leBytes bs)) ∧
    (bs.length = 32 → (Code.frFromBytesChecked bs = some v ↔ leBytes bs < r ∧ v = leBytes bs)) ∧
    (bs.length = 48 → (Code.fpFromBytesChecked bs = some v ↔ leBytes bs < p ∧ v = leBytes bs)) := by
  unfold Code.fqFromBytesChecked Code.frFromBytesChecked Code.fpFromBytesChecked
  rw [Formulas.FieldFns.fq_from_bytes_checked_eq, Formulas.FieldFns.fr_from_bytes_checked_eq, Formulas.FieldFns.fp_from_bytes_checked_eq]
  exact C11.from_bytes_checked_iff bs hb v

/-- **reduction of byte strings of any length is the integer modulo the modulus**, on the translated code -/
theorem from_le_bytes_mod_order_spec (bs : List ℕ) :
    Code.fqFromLeBytesModOrder bs = leBytes bs % q ∧ Code.frFromLeBytesModOrder bs = leBytes bs % r ∧
    Code.fpFromLeBytesModOrder bs = leBytes bs % p := by
  unfold Code.fqFromLeBytesModOrder Code.frFromLeBytesModOrder Code.fpFromLeBytesModOrder
  rw [Formulas.FieldFns.fq_from_le_bytes_mod_order_eq, Formulas.FieldFns.fr_from_le_bytes_mod_order_eq,
    Formulas.FieldFns.fp_from_le_bytes_mod_order_eq]
  exact C11.from_le_bytes_mod_order_spec bs

/-- **`to_bytes` emits the canonical little-endian form, which the translated checked parser reads back** -/
theorem to_bytes_canonical (x : ℕ) :
    (x < q → (Code.fqToBytes x).length = 32 ∧ leBytes (Code.fqToBytes x) = x ∧ Code.fqFromBytesChecked (Code.fqToBytes x) = some x) ∧
    (x < r → (Code.frToBytes x).length = 32 ∧ leBytes (Code.frToBytes x) = x ∧ Code.frFromBytesChecked (Code.frToBytes x) = some x) ∧
    (x < p → (Code.fpToBytes x).length = 48 ∧ leBytes (Code.fpToBytes x) = x ∧ Code.fpFromBytesChecked (Code.fpToBytes x) = some x) := by
  unfold Code.fqFromBytesChecked Code.frFromBytesChecked Code.fpFromBytesChecked Code.fqToBytes Code.frToBytes Code.fpToBytes
  simp only [Formulas.FieldFns.fq_from_bytes_checked_eq, Formulas.FieldFns.fr_from_bytes_checked_eq, Formulas.FieldFns.fp_from_bytes_checked_eq,
    Formulas.FieldFns.fq_to_bytes_eq, Formulas.FieldFns.fr_to_bytes_eq, Formulas.FieldFns.fp_to_bytes_eq]
  exact C11.to_bytes_canonical x

end C11.Translated
