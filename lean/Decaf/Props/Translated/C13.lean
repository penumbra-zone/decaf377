/-
C13 stated about the translated gadget bodies (`Code.r1cs*`: the bodies of `ElementVar::compress_to_field`,
`decompress_from_field`, `elligator_map`, `EqGadget::is_eq` and `FqVarExtension::isqrt`, regenerated into Lean on
every run), honest synthesis (`h = none`); then witness allocation, the operator forms of `ElementVar`, and the lazily
evaluated variable on the translated `LazyElementVar::element` / `::encoding`.
-/
import Decaf.Props.C13
import Decaf.Lemmas.Formulas.R1cs
import Decaf.Lemmas.Formulas.Lazy
import Decaf.Lemmas.Formulas.OpForms

namespace C13.Translated
open Model Edwards Decaf

theorem isqrt_complete {x : ℕ} (hx : x < q) :
    ∃ f y, sqrtRatioArk 1 x = some (f, y) ∧ Code.r1csIsqrt x none = (true, f, y) := by
  rw [Code.r1csIsqrt_eq]; exact C13.isqrt_complete hx

/-- on a constant input the gadget emits nothing and returns the native pair -/
theorem isqrt_const_complete {x : ℕ} (hx : x < q) :
    ∃ f y, sqrtRatioArk 1 x = some (f, y) ∧ Code.r1csIsqrtConst x = (true, f, y) := by
  obtain ⟨f, y, hs, _⟩ := sarkar_contract.total 1 x one_lt_q hx
  refine ⟨f, y, hs, ?_⟩
  rw [Code.r1csIsqrtConst_eq]
  unfold R1cs.honest
  rw [hs]; rfl

theorem compress_complete (x y : ℕ) :
    ∃ s, Ext.encodeField sqrtRatioArk (Ext.ofAffine (x, y)) = some s ∧ Code.r1csCompress x y none = (true, s) := by
  rw [Code.r1csCompress_eq]; exact C13.compress_complete x y

theorem elligator_complete (r0 : ℕ) :
    ∃ c P, elligator sqrtRatioArk ZETA r0 = some c ∧ ERepr c P ∧ (Code.r1csElligator r0 none).1 = true ∧
      P.x = (((Code.r1csElligator r0 none).2.1 : ℕ) : Fq) ∧ P.y = (((Code.r1csElligator r0 none).2.2 : ℕ) : Fq) := by
  rw [Code.r1csElligator_eq]; exact C13.elligator_complete r0

theorem decompress_complete_iff {s : ℕ} (hs : s < q) :
    ((Code.r1csDecompress s none).1 = true ↔ ∃ c, decodeField sqrtRatioArk s = .ok c) ∧
    (∀ c, decodeField sqrtRatioArk s = .ok c → (Code.r1csDecompress s none).2 = (c.X, c.Y)) := by
  rw [Code.r1csDecompress_eq]; exact C13.decompress_complete_iff hs

theorem isEq_gadget {a b : ℕ × ℕ} {P Q : E} (ha : C13.AffRep a P) (hb : C13.AffRep b Q) :
    Code.r1csIsEq a b = true ↔ Point.Coset P Q := by
  rw [Code.r1csIsEq_eq]; exact C13.isEq_gadget ha hb

/-- witness allocation (the translated `AllocationMode::Witness` arm of `AllocVar<Element>`): complete for every affine
representative of every group element, and the variable handed back carries a point of the same coset -/
theorem allocWitness_complete {px py : ℕ} {P : E} (hr : ERepr (Ext.ofAffine (px, py)) P) (he : Point.IsEven P) :
    ∃ P', (Code.r1csAllocWitness px py none).1 = true ∧ C13.AffRep (Code.r1csAllocWitness px py none).2 P' ∧ Point.Coset P P' := by
  rw [Code.r1csAllocWitness_eq]; exact C13.allocWitness_complete hr he

/-- the operator forms of the gadget variables (`impl Add/Sub/…Assign for ElementVar`, with `ElementVar` and with constant
`Element` operands, in src/ark_curve/r1cs/{ops,inner}.rs; entries of the regenerated lists labelled `r1cs/…`) carry the
group sum / difference of the carried values — the same denotation as the native forms in the same lists (C04) -/
theorem gadget_operator_forms (P Q : E) :
    (∀ f ∈ (Gen.OpForms.addForms : List (String × (E → E → E))), f.2 P Q = P + Q) ∧
    (∀ f ∈ (Gen.OpForms.subForms : List (String × (E → E → E))), f.2 P Q = P - Q) :=
  ⟨fun f hf => Formulas.OpForms.addForms_correct f hf P Q, fun f hf => Formulas.OpForms.subForms_correct f hf P Q⟩

/-! ### the lazily evaluated variable, on the translated `LazyElementVar::element` / `::encoding` -/

/-- a sequence of forcings through the translated bodies (one hint per emitted gadget) -/
def runCode : List R1cs.Force → R1cs.Lazy → List R1cs.Hint → R1cs.Lazy × List R1cs.Emitted
  | [], st, _ => (st, [])
  | f :: fs, st, hs =>
    let r := Code.lazyStep st f (hs.headD none)
    let hs' := if r.2.1 = .nothing then hs else hs.drop 1
    let rest := runCode fs r.1 hs'
    (rest.1, r.2.1 :: rest.2)

theorem runCode_eq (fs : List R1cs.Force) (st : R1cs.Lazy) (hs : List R1cs.Hint) : runCode fs st hs = C13.run fs st hs := by
  induction fs generalizing st hs with
  | nil => rfl
  | cons f fs ih => simp only [runCode, C13.run, Code.lazyStep_eq, ih]

/-- **at most one gadget is ever synthesised** by the translated code, for every order and number of forcings -/
theorem lazy_emits_at_most_once (fs : List R1cs.Force) (st : R1cs.Lazy) (hs : List R1cs.Hint) :
    ((runCode fs st hs).2.filter (· ≠ .nothing)).length ≤ 1 := by
  rw [runCode_eq]; exact C13.lazy_emits_at_most_once fs st hs

/-- a value, once defined, is never changed by a later forcing of the translated code -/
theorem lazy_preserves_values (st : R1cs.Lazy) (f : R1cs.Force) (h : R1cs.Hint) :
    (∀ s, st.encVal = some s → (Code.lazyStep st f h).1.encVal = some s) ∧
    (∀ p, st.elemVal = some p → (Code.lazyStep st f h).1.elemVal = some p) := by
  rw [Code.lazyStep_eq]; exact C13.step_preserves_values st f h

/-- what `element()` / `encoding()` hand back is the value stored in the variable after the call -/
theorem lazy_returns_stored (st : R1cs.Lazy) (h : R1cs.Hint) :
    (Code.lazyStep st .elem h).1.elemVal = some (Gen.Lazy.element st h).2.2.2 ∧
    (Code.lazyStep st .enc h).1.encVal = some (Gen.Lazy.encoding st h).2.2.2 := by
  rw [Code.lazyStep_eq]; exact ⟨Code.lazy_element_value st h, Code.lazy_encoding_value st h⟩

/-- forcing the element of a variable made from an encoding synthesises exactly the translated decoding gadget on it,
and forcing the encoding of a variable made from an element exactly the translated encoding gadget -/
theorem lazy_forces_gadget (s x y : ℕ) (h : R1cs.Hint) :
    Code.lazyStep (.enc s) .elem h = (.both s (Code.r1csDecompress s h).2.1 (Code.r1csDecompress s h).2.2, .decompress, (Code.r1csDecompress s h).1) ∧
    Code.lazyStep (.elem x y) .enc h = (.both (Code.r1csCompress x y h).2 x y, .compress, (Code.r1csCompress x y h).1) := by
  rw [Code.lazyStep_eq, Code.r1csDecompress_eq, Code.r1csCompress_eq]
  exact ⟨C13.step_eq _ _ _, C13.step_eq _ _ _⟩

end C13.Translated
