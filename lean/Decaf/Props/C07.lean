/-
C07 — Hash-to-group equals the specified Elligator 2 map.

For every routine `sr` meeting the contract (both builds) and every r₀ < q: the one-input map never panics and never
divides by zero (Z ≠ 0), its output represents exactly the point that ristretto.sage's `elligatorSpec` +
`fromJacobiQuartic` define (`ElligatorTo`, relational form, see `Spec/Elligator.lean`), that point is in the even
subgroup (so the output is a valid element, C01/C06), and the map is invariant under r₀ ↦ -r₀.  The two-input hash
is, by its definition, the group sum of the one-input map applied to each input.
One input excepted: at r₀ = 0 sage takes its `s == 0` branch and returns (0, 1), where `ElligatorTo` and the map give
(0, -1), the other member of the identity coset: the same group element, not the same point.
-/
import Decaf.BuildsCmd
import Decaf.Lemmas.ModelElligator
import Decaf.Props.C01

namespace C07
open Model Edwards Decaf

variable {sr : SR}

/-- the one-input map equals the specification, for every field element -/
theorem elligator_eq_spec (h : SRContract sr) (r0 : ℕ) :
    ∃ c pt, elligator sr ZETA r0 = some c ∧ ERepr c pt ∧
      ElligatorTo params paritySign ((ZETA : ℕ) : Fq) (r0 : Fq) pt.x pt.y ∧ Point.IsEven pt := by
  obtain ⟨f, v, hsr, -, hA⟩ := h.ans (ellArg_lt r0)
  obtain ⟨pt, hr, hs, he⟩ := ellOut_spec r0 hA
  exact ⟨_, pt, elligator_of_sr hsr, hr, hs, he⟩

/-- forward form: whatever the map returns represents the specified point -/
theorem elligator_spec_of_eq (h : SRContract sr) {r0 : ℕ} {c : Ext} (hc : elligator sr ZETA r0 = some c) :
    ∃ pt, ERepr c pt ∧ ElligatorTo params paritySign ((ZETA : ℕ) : Fq) (r0 : Fq) pt.x pt.y ∧ Point.IsEven pt := by
  obtain ⟨c1, pt, h1, hr, hs, he⟩ := elligator_eq_spec h r0
  cases h1.symm.trans hc
  exact ⟨pt, hr, hs, he⟩

/-- it never panics and never produces Z = 0 -/
theorem elligator_total (h : SRContract sr) (r0 : ℕ) : ∃ c, elligator sr ZETA r0 = some c ∧ (c.Z : Fq) ≠ 0 := by
  obtain ⟨c, pt, hc, hr, _, _⟩ := elligator_eq_spec h r0
  exact ⟨c, hc, hr.z⟩

theorem elligatorTo_unique {r0 : Fq} {p p' : E} (hs : ElligatorTo params paritySign ((ZETA : ℕ) : Fq) r0 p.x p.y)
    (hs' : ElligatorTo params paritySign ((ZETA : ℕ) : Fq) r0 p'.x p'.y) : p' = p :=
  Point.ext (ElligatorTo.unique hs hs').1 (ElligatorTo.unique hs hs').2

/-- both builds (any two routines meeting the contract) return the same element -/
theorem elligator_builds_agree {sr' : SR} (h : SRContract sr) (h' : SRContract sr') (r0 : ℕ) {c c' : Ext}
    (hc : elligator sr ZETA r0 = some c) (hc' : elligator sr' ZETA r0 = some c') : Ext.eq c c' = true := by
  obtain ⟨p1, r1, s1, _⟩ := elligator_spec_of_eq h hc
  obtain ⟨p2, r2, s2, _⟩ := elligator_spec_of_eq h' hc'
  obtain rfl := elligatorTo_unique s1 s2
  exact C04.eq_of_repr_same r1 r2

/-- invariance under r₀ ↦ -r₀ -/
theorem elligator_neg (h : SRContract sr) (r0 : ℕ) {c c' : Ext}
    (hc : elligator sr ZETA r0 = some c) (hc' : elligator sr ZETA (fneg q r0) = some c') : Ext.eq c c' = true := by
  obtain ⟨p1, r1, s1, _⟩ := elligator_spec_of_eq h hc
  obtain ⟨p2, r2, s2, _⟩ := elligator_spec_of_eq h hc'
  rw [cast_fneg, ElligatorTo.neg_iff] at s2
  obtain rfl := elligatorTo_unique s1 s2
  exact C04.eq_of_repr_same r1 r2

/-- the output is a valid element: its encoding decodes to an element equal to it -/
theorem elligator_valid (h : SRContract sr) (r0 : ℕ) {c : Ext} (hc : elligator sr ZETA r0 = some c) :
    ∃ bytes c', Ext.encode sr c = some bytes ∧ decode32 sr bytes = .ok c' ∧ Ext.eq c c' = true := by
  obtain ⟨p1, r1, _, hev⟩ := elligator_spec_of_eq h hc
  obtain ⟨bytes, c', _, he, hd, _, _, heq⟩ := C01.decode_encode h r1 hev
  exact ⟨bytes, c', he, hd, heq⟩

/-- the two-input hash is the group sum of the two one-input maps (either backend's addition) -/
theorem hash_to_curve_eq (h : SRContract sr) (r1 r2 : ℕ) :
    ∃ c1 c2 p1 p2, elligator sr ZETA r1 = some c1 ∧ elligator sr ZETA r2 = some c2 ∧ ERepr c1 p1 ∧ ERepr c2 p2 ∧
      ERepr (Ext.addMin c1 c2) (p1 + p2) ∧ ERepr (Ext.addRef c1 c2) (p1 + p2) ∧ Point.IsEven (p1 + p2) := by
  obtain ⟨c1, p1, h1, e1, _, v1⟩ := elligator_eq_spec h r1
  obtain ⟨c2, p2, h2, e2, _, v2⟩ := elligator_eq_spec h r2
  exact ⟨c1, c2, p1, p2, h1, h2, e1, e2, addMin_repr e1 e2, addRef_repr e1 e2, Point.isEven_add v1 v2⟩

theorem elligator_X_lt {r0 : ℕ} {c : Ext} (hc : elligator sr ZETA r0 = some c) : c.X < q := by
  unfold elligator at hc
  simp only [] at hc
  split at hc
  · exact absurd hc (by simp)
  · rw [← Option.some.inj hc]; exact fmul_lt q_pos _ _

/-- the identity test on the output does not depend on the routine -/
theorem elligator_isIdentity_agree {sr' : SR} (h : SRContract sr) (h' : SRContract sr') (r0 : ℕ) :
    (elligator sr ZETA r0).map Ext.isIdentity = (elligator sr' ZETA r0).map Ext.isIdentity := by
  obtain ⟨c, p, hc, hr, hs, -⟩ := elligator_eq_spec h r0
  obtain ⟨c', p', hc', hr', hs', -⟩ := elligator_eq_spec h' r0
  obtain rfl := elligatorTo_unique hs hs'
  rw [hc, hc', Option.map_some, Option.map_some, Option.some.injEq, Bool.eq_iff_iff,
    isIdentity_iff hr (elligator_X_lt hc), isIdentity_iff hr' (elligator_X_lt hc')]

/-- non-vacuity: r₀ = 0 maps to an identity representative, r₀ = 1 does not.  The minimal routine is evaluated in the
kernel; for the arkworks routine (whose evaluation rebuilds the 256-row table) the test is transferred by
`elligator_isIdentity_agree` -/
example : ((elligator sqrtRatioMin ZETA 0).map Ext.isIdentity = some true) ∧
    ((elligator sqrtRatioArk ZETA 1).map Ext.isIdentity = some false) := by
  rw [elligator_isIdentity_agree sarkar_contract sqrtRatioMin_contract]; decide +kernel

end C07

instantiate_builds C07.elligator_eq_spec
instantiate_builds C07.elligator_total
instantiate_builds C07.elligator_builds_agree
instantiate_builds C07.elligator_neg
instantiate_builds C07.elligator_valid
instantiate_builds C07.hash_to_curve_eq
