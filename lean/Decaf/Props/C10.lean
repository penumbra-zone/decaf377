/-
C10 — Field arithmetic is exact arithmetic mod p in all three fields, both backends.

What the repository wrote around the backend primitives is modelled and proved: every operator returns the
canonical representative of the ring operation in `ZMod m` (cast lemmas + `< m`), inversion (absent at zero, an
inverse otherwise), division, exponentiation over EVERY multi-limb exponent (`Fq::power` as repaired, the same loop as
`pow_le_limbs`), sums and products over lists (incl. empty), and constant-time selection / equality on the
Montgomery limbs of both wrappers.  The primitives themselves (arkworks Montgomery arithmetic, fiat-crypto) enter by
contract — exact arithmetic mod p on canonical values — and are validated differentially (DESIGN.md §4).
-/
import Decaf.Lemmas.TonelliShanks
import Decaf.Lemmas.Bytes
import Decaf.Model.Exec

namespace C10
open Model

variable {m : ℕ}

/-- every binary / unary operator: canonical result, exact value in `ZMod m` -/
theorem add_spec [NeZero m] (a b : ℕ) : fadd m a b < m ∧ ((fadd m a b : ℕ) : ZMod m) = a + b :=
  ⟨fadd_lt (Nat.pos_of_neZero m) a b, cast_fadd a b⟩
theorem sub_spec [NeZero m] (a b : ℕ) : fsub m a b < m ∧ ((fsub m a b : ℕ) : ZMod m) = a - b :=
  ⟨fsub_lt (Nat.pos_of_neZero m) a b, cast_fsub a b⟩
theorem mul_spec [NeZero m] (a b : ℕ) : fmul m a b < m ∧ ((fmul m a b : ℕ) : ZMod m) = a * b :=
  ⟨fmul_lt (Nat.pos_of_neZero m) a b, cast_fmul a b⟩
theorem neg_spec [NeZero m] (a : ℕ) : fneg m a < m ∧ ((fneg m a : ℕ) : ZMod m) = -a :=
  ⟨fneg_lt (Nat.pos_of_neZero m) a, cast_fneg a⟩
theorem square_spec [NeZero m] (a : ℕ) : fsq m a < m ∧ ((fsq m a : ℕ) : ZMod m) = a * a :=
  ⟨fsq_lt (Nat.pos_of_neZero m) a, (cast_fsq a).trans (sq _)⟩
theorem double_spec [NeZero m] (a : ℕ) : ((fadd m a a : ℕ) : ZMod m) = 2 * a := by rw [cast_fadd]; ring

/-- as integers: the result of every operator is the integer operation reduced mod m -/
theorem add_nat (a b : ℕ) : fadd m a b = (a + b) % m := rfl
theorem mul_nat (a b : ℕ) : fmul m a b = (a * b) % m := rfl
theorem sub_int [NeZero m] (a b : ℕ) : ((fsub m a b : ℕ) : ℤ) = ((a : ℤ) - b) % m := by
  -- both sides are the representative in `[0, m)` of the same class
  rw [← Int.emod_eq_of_lt (Int.natCast_nonneg _) (Int.ofNat_lt.mpr (fsub_lt (Nat.pos_of_neZero m) a b))]
  exact (ZMod.intCast_eq_intCast_iff' _ _ _).mp (by push_cast; exact cast_fsub a b)

/-- **inversion**: absent at zero, a genuine inverse otherwise -/
theorem inverse_spec (F : FP) [Fact F.m.Prime] (hm : 2 < F.m) :
    F.inverse 0 = none ∧ ∀ x, x < F.m → x ≠ 0 → ∃ y, F.inverse x = some y ∧ y < F.m ∧ fmul F.m x y = 1 := by
  refine ⟨rfl, fun x hx hx0 => ?_⟩
  have hxq : (x : ZMod F.m) ≠ 0 := by rwa [Ne, cast_eq_zero_iff hx]
  refine ⟨finv F.m x, by unfold FP.inverse; simp [hx0], finv_lt (by omega) _, ?_⟩
  apply eq_of_cast_eq (fmul_lt (by omega) _ _) (by omega)
  rw [cast_fmul, cast_finv hm, Nat.cast_one, mul_inv_cancel₀ hxq]

theorem div_spec [Fact m.Prime] (hm : 2 < m) (a b : ℕ) : ((fdiv m a b : ℕ) : ZMod m) = (a : ZMod m) / b := cast_fdiv hm a b

/-- `Fq::power` runs the loop of `pow_le_limbs` (the glue model repeats it so as not to import the square-root model) -/
theorem powLeLimbsAux'_eq (bits : List Bool) (acc ins : ℕ) : powLeLimbsAux' m bits acc ins = powLeLimbsAux m bits acc ins := by
  induction bits generalizing acc ins with
  | nil => rfl
  | cons b bs ih => rw [powLeLimbsAux', powLeLimbsAux, ih]

/-- **exponentiation honours the whole multi-limb exponent** (`Fq::power`, any number of limbs) -/
theorem power_spec (F : FP) (x : ℕ) (limbs : List ℕ) (h : ∀ l ∈ limbs, l < 2 ^ 64) :
    ((F.power x limbs : ℕ) : ZMod F.m) = (x : ZMod F.m) ^ Lit.ofLimbs 64 limbs := by
  rw [FP.power, powLeLimbsAux'_eq]; exact cast_powLeLimbs F.m x limbs h

/-- arkworks' `pow` is modelled by its contract, which is this value too -/
theorem pow_contract (F : FP) (x : ℕ) (limbs : List ℕ) :
    ((F.powLimbs x limbs : ℕ) : ZMod F.m) = (x : ZMod F.m) ^ Lit.ofLimbs 64 limbs := by
  unfold FP.powLimbs; exact cast_powMod _ _ _

/-- **sums and products over iterators** (the empty sum is 0, the empty product is 1) -/
theorem sum_spec (F : FP) (xs : List ℕ) : ((F.sum xs : ℕ) : ZMod F.m) = (xs.map (Nat.cast : ℕ → ZMod F.m)).sum := by
  rw [FP.sum, List.sum_eq_foldl, List.foldl_map, ← List.foldl_hom Nat.cast (g₂ := fun x (y : ℕ) => x + (y : ZMod F.m)) fun a b => (cast_fadd a b).symm,
    Nat.cast_zero]

theorem product_spec (F : FP) (xs : List ℕ) : ((F.product xs : ℕ) : ZMod F.m) = (xs.map (Nat.cast : ℕ → ZMod F.m)).prod := by
  rw [FP.product, List.prod_eq_foldl, List.foldl_map, ← List.foldl_hom Nat.cast (g₂ := fun x (y : ℕ) => x * (y : ZMod F.m)) fun a b => (cast_fmul a b).symm,
    ZMod.natCast_mod, Nat.cast_one]

/-! ### constant-time selection and equality on the Montgomery limbs -/

theorem zipWith_select (c : Bool) (a b : List ℕ) (h : a.length = b.length) :
    List.zipWith (fun x y => if c then y else x) a b = if c then b else a := by
  rw [← List.map_uncurry_zip_eq_zipWith]
  cases c
  · exact List.map_fst_zip h.le
  · exact List.map_snd_zip h.ge

/-- Montgomery form round-trips when the radix is invertible -/
theorem fromMont_toMont (F : FP) [Fact F.m.Prime] (hm : 2 < F.m) (hR : 2 ^ (64 * F.nl) % F.m ≠ 0) (x : ℕ) (hx : x < F.m) :
    F.fromMont (F.toMont x) = x := by
  unfold FP.fromMont FP.toMont
  apply eq_of_cast_eq (fmul_lt (by omega) _ _) hx
  have hRq : ((2 ^ (64 * F.nl) % F.m : ℕ) : ZMod F.m) ≠ 0 := by
    rwa [Ne, cast_eq_zero_iff (Nat.mod_lt _ (by omega))]
  simp only [cast_fmul, cast_finv hm, ZMod.natCast_mod, Nat.cast_mul] at hRq ⊢
  rw [mul_assoc, mul_inv_cancel₀ hRq, mul_one]

/-- the Montgomery limbs (of either width) of a canonical value determine it -/
theorem fromMont_limbs (F : FP) [Fact F.m.Prime] (hm : 2 < F.m) (hR : 2 ^ (64 * F.nl) % F.m ≠ 0) (w : ℕ)
    (hw : (2 ^ w) ^ (64 * F.nl / w) = 2 ^ (64 * F.nl)) (hF : F.m < 2 ^ (64 * F.nl)) {a : ℕ} (ha : a < F.m) :
    F.fromMont (Lit.ofLimbs w (toLimbs w (F.toMont a) (64 * F.nl / w))) = a := by
  rw [ofLimbs_toLimbs_of_lt (hw ▸ (Nat.mod_lt _ (by omega)).trans hF), fromMont_toMont F hm hR a ha]

/-- **selection returns exactly one of its two operands** (limb width 64: u64 wrapper; 32: u32 wrapper) -/
theorem select_spec (F : FP) [Fact F.m.Prime] (hm : 2 < F.m) (hR : 2 ^ (64 * F.nl) % F.m ≠ 0) (w : ℕ)
    (hw : (2 ^ w) ^ (64 * F.nl / w) = 2 ^ (64 * F.nl)) (hF : F.m < 2 ^ (64 * F.nl))
    (a b : ℕ) (ha : a < F.m) (hb : b < F.m) (c : Bool) :
    F.selectLimbs w a b c = if c then b else a := by
  rw [FP.selectLimbs, zipWith_select c _ _ (by simp only [toLimbs_length])]
  cases c
  · exact fromMont_limbs F hm hR w hw hF ha
  · exact fromMont_limbs F hm hR w hw hF hb

/-- **constant-time equality is equality** -/
theorem ct_eq_spec (F : FP) [Fact F.m.Prime] (hm : 2 < F.m) (hR : 2 ^ (64 * F.nl) % F.m ≠ 0) (w : ℕ)
    (hw : (2 ^ w) ^ (64 * F.nl / w) = 2 ^ (64 * F.nl)) (hF : F.m < 2 ^ (64 * F.nl))
    (a b : ℕ) (ha : a < F.m) (hb : b < F.m) : F.ctEq w a b = true ↔ a = b := by
  rw [FP.ctEq, beq_iff_eq]
  refine ⟨fun h => ?_, fun h => h ▸ rfl⟩
  rw [← fromMont_limbs F hm hR w hw hF ha, h, fromMont_limbs F hm hR w hw hF hb]

/-- the side conditions hold for Fq, both limb widths (kernel evaluation) -/
theorem fq_select_side : 2 ^ (64 * Exec.fqP.nl) % Exec.fqP.m ≠ 0 ∧ (2 ^ 64) ^ (64 * Exec.fqP.nl / 64) = 2 ^ (64 * Exec.fqP.nl) ∧
    (2 ^ 32) ^ (64 * Exec.fqP.nl / 32) = 2 ^ (64 * Exec.fqP.nl) ∧ Exec.fqP.m < 2 ^ (64 * Exec.fqP.nl) := by decide +kernel

/-- non-vacuity: a two-limb exponent; the empty product; a selection -/
example : Exec.fqP.power 3 [0, 1] = powMod 3 (2 ^ 64) q ∧ Exec.frP.product [] = 1 ∧ Exec.fqP.selectLimbs 64 5 7 true = 7 ∧
    Exec.fqP.selectLimbs 32 5 7 false = 5 := by decide +kernel

end C10
