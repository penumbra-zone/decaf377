/-
C09 — Square-root-of-ratio meets its four-case contract on every input.

`Model.SRContract sr` is the contract on canonical naturals: total (never a panic), (true,0) for num = 0,
(false,0) for den = 0 ≠ num, (true,y) with y²·den = num when num/den is a non-zero square, (false,y) with
y²·den = ζ·num otherwise.

Proved here in full for the minimal backend's routine (`non_arkworks_sqrt_ratio_zeta`: Euler criterion through
`pow_le_limbs` + the constant-time Tonelli–Shanks loop, by a loop invariant; the constants it uses are the
generated ones), and in full for the table-driven routine of the arkworks backend (`ark_contract`: with
g = ζ^M of exact order 2^47, x5 = (num/den)^M = g^e; every one of the six table lookups hits, because the key is
g^(m·2^39) for the invariant (e + t) ≡ 0 mod 2^b; the flag is the parity of e; the product squares to num/den or
ζ·num/den).  In particular neither routine can panic.  The generic field square roots (arkworks' Tonelli–Shanks
for Fq and Fp, the 3-mod-4 shortcut for Fr, driven by the translated `SQRT_PRECOMP` constants) and the Legendre symbol
are shown to agree with Euler's criterion (`fq_sqrt_spec`, `fp_sqrt_spec`, `fr_sqrt_spec`, `legendre_euler`).
-/
import Decaf.Lemmas.TonelliShanks
import Decaf.Lemmas.Sarkar
import Decaf.Lemmas.GenericSqrt

namespace C09
open Model

/-- the minimal backend's routine meets the contract, for every pair in Fq × Fq -/
theorem min_contract : SRContract sqrtRatioMin := sqrtRatioMin_contract

/-- the arkworks backend's table-driven routine meets the contract, for every pair in Fq × Fq; `total` says that
no `HashMap` index in it can miss -/
theorem ark_contract : SRContract sqrtRatioArk := sarkar_contract

/-- the two routines return the same flag and roots of the same square, on every input -/
theorem routines_agree {n d : ℕ} (hn : n < q) (hd : d < q) :
    ∃ f y y', sqrtRatioArk n d = some (f, y) ∧ sqrtRatioMin n d = some (f, y') ∧ (y : Fq) ^ 2 * (d : Fq) = (y' : Fq) ^ 2 * (d : Fq) :=
  ark_contract.agree min_contract hn hd

/-- `pow_le_limbs` is exponentiation by the integer the limbs denote, for every limb list -/
theorem pow_le_limbs_spec (m x : ℕ) (limbs : List ℕ) (h : ∀ l ∈ limbs, l < 2 ^ 64) :
    ((powLeLimbs m x limbs : ℕ) : ZMod m) = (x : ZMod m) ^ Lit.ofLimbs 64 limbs := cast_powLeLimbs m x limbs h

/-- `our_sqrt` returns a root of every non-zero square -/
theorem our_sqrt_spec {x : ℕ} (hx : x < q) (hx0 : (x : Fq) ≠ 0) (hsq : IsSquare (x : Fq)) :
    ((ourSqrt x : ℕ) : Fq) ^ 2 = (x : Fq) := (ourSqrt_spec hx0 hsq).1

theorem legendre_facts :
    (∀ l ∈ Gen.fields_fr.Fr.MODULUS_MINUS_ONE_DIV_TWO_LIMBS.nats, l < 2 ^ 64) ∧ Lit.ofLimbs 64 Gen.fields_fr.Fr.MODULUS_MINUS_ONE_DIV_TWO_LIMBS.nats = (r - 1) / 2 ∧
    (∀ l ∈ Gen.fields_fp.Fp.MODULUS_MINUS_ONE_DIV_TWO_LIMBS.nats, l < 2 ^ 64) ∧ Lit.ofLimbs 64 Gen.fields_fp.Fp.MODULUS_MINUS_ONE_DIV_TWO_LIMBS.nats = (p - 1) / 2 ∧
    2 < r ∧ 2 < p := by decide +kernel

/-- the Legendre symbol of all three fields agrees with Euler's criterion -/
theorem legendre_all (a : ℕ) :
    (a < q → legendre q Gen.fields_fq.Fq.MODULUS_MINUS_ONE_DIV_TWO_LIMBS.nats a = if a = 0 then 0 else if IsSquare (a : ZMod q) then 1 else 2) ∧
    (a < r → legendre r Gen.fields_fr.Fr.MODULUS_MINUS_ONE_DIV_TWO_LIMBS.nats a = if a = 0 then 0 else if IsSquare (a : ZMod r) then 1 else 2) ∧
    (a < p → legendre p Gen.fields_fp.Fp.MODULUS_MINUS_ONE_DIV_TWO_LIMBS.nats a = if a = 0 then 0 else if IsSquare (a : ZMod p) then 1 else 2) := by
  obtain ⟨b1, b2, c1, c2, hr, hp⟩ := legendre_facts
  exact ⟨fun h => legendre_spec q_gt_two _ half_limbs_ok.1 half_limbs_ok.2 h, fun h => legendre_spec hr _ b1 b2 h,
    fun h => legendre_spec hp _ c1 c2 h⟩

/-- the Legendre symbol computed through `pow_le_limbs` agrees with Euler's criterion -/
theorem legendre_euler {a : ℕ} (ha : a < q) (ha0 : a ≠ 0) :
    legendre q Gen.fields_fq.Fq.MODULUS_MINUS_ONE_DIV_TWO_LIMBS.nats a = (if IsSquare (a : Fq) then 1 else 2) :=
  ((legendre_all a).1 ha).trans (if_neg ha0)

/-! ### the generic field square roots (arkworks' `Field::sqrt` driven by the repository's `SQRT_PRECOMP`) -/

/-- **Fq::sqrt agrees with Euler's criterion**: a root of every square, `None` for every non-square, and the modelled
loops finish within their fuel -/
theorem fq_sqrt_spec {a : ℕ} (ha : a < q) :
    (IsSquare (a : Fq) → ∃ x, fqSqrt a = some (some x) ∧ x < q ∧ (x : Fq) ^ 2 = (a : Fq)) ∧
    (¬ IsSquare (a : Fq) → fqSqrt a = some none) :=
  sqrtTS_spec_of_params (tsParams Gen.fields_fq_arkworks.Field_Fq.SQRT_PRECOMP) fqLit (by decide +kernel) ha

theorem fp_sqrt_spec {a : ℕ} (ha : a < p) :
    (IsSquare (a : ZMod p) → ∃ x, fpSqrt a = some (some x) ∧ x < p ∧ (x : ZMod p) ^ 2 = (a : ZMod p)) ∧
    (¬ IsSquare (a : ZMod p) → fpSqrt a = some none) :=
  sqrtTS_spec_of_params (tsParams Gen.fields_fp_arkworks.Field_Fp.SQRT_PRECOMP) fpLit (by decide +kernel) ha

def frExp : List ℕ := match Gen.fields_fr_arkworks.Field_Fr.SQRT_PRECOMP with | .struct [e] => e.nats | _ => []
theorem fr_exp_facts : (∀ l ∈ frExp, l < 2 ^ 64) ∧ 4 * Lit.ofLimbs 64 frExp = r + 1 ∧ 2 < r := by decide +kernel

/-- **Fr::sqrt (the p ≡ 3 mod 4 shortcut) agrees with Euler's criterion** -/
theorem fr_sqrt_spec {a : ℕ} (ha : a < r) :
    (IsSquare (a : ZMod r) → ∃ x, frSqrt a = some x ∧ x < r ∧ (x : ZMod r) ^ 2 = (a : ZMod r)) ∧
    (¬ IsSquare (a : ZMod r) → frSqrt a = none) :=
  sqrt3Mod4_spec fr_exp_facts.2.2 frExp fr_exp_facts.1 fr_exp_facts.2.1 ha

/-- non-vacuity: concrete inputs in each of the four cases, both routines.  The minimal routine is evaluated by the
kernel.  Evaluating the arkworks routine on non-zero operands rebuilds its 256-row table, so there the flags are read
off `ark_contract`: 1/4 is a square, 1/ζ is not -/
example : sqrtRatioMin 0 5 = some (true, 0) ∧ sqrtRatioMin 5 0 = some (false, 0) ∧
    (sqrtRatioMin 1 4).map (·.1) = some true ∧ (sqrtRatioMin 1 5).map (·.1) = some true ∧
    (sqrtRatioMin 1 ZETA).map (·.1) = some false := by decide +kernel
example : sqrtRatioArk 0 5 = some (true, 0) ∧ sqrtRatioArk 5 0 = some (false, 0) ∧
    (sqrtRatioArk 1 4).map (·.1) = some true ∧ (sqrtRatioArk 1 ZETA).map (·.1) = some false := by
  have h4 : (4 : ℕ) < q := by decide +kernel
  refine ⟨rfl, rfl, ?_, ?_⟩
  · obtain ⟨f, y, h, -, hA⟩ := ark_contract.ans h4
    rw [h, hA.flag.mpr ⟨mt (cast_eq_zero_iff h4).mp (by norm_num), 2, by norm_num⟩]
    rfl
  · obtain ⟨f, y, h, -, hA⟩ := ark_contract.ans zeta_lt
    rw [h, Bool.eq_false_iff.mpr (mt hA.flag.mp fun hh => zeta_nonsquare hh.2)]
    rfl

end C09
