/-
C14 — R1CS gadgets are sound against adversarial prover hints.

`R1cs.isqrt x h`, `R1cs.decompress s h` … are the constraint relations of the gadgets (Model/R1cs.lean, read off
fqvar_ext.rs / inner.rs line by line; arkworks' FpVar/Boolean primitives by contract), as a function of the
inputs and of the prover-supplied hint `h = some (flag, y)`; the first component says whether all constraints hold.

The constraints of `isqrt` pin the hint down to an allowed answer wherever its argument is non-zero (`isqrt_ans`,
Lemmas/Gadgets.lean), and "= specification" is proved for every allowed answer (`decOut_spec`, `encOut_spec`,
`ellOut_spec`); where a gadget is compared with the native function, both outputs meet the specification, which
determines them.  At argument 0 the constraints also admit (true, ±1) (`isqrt_rel_zero`): harmless for the encoder (the
argument vanishes only at x = 0, where the output is 0 whatever the answer is, and `encOut_spec` asks nothing of it there)
and for Elligator (it never vanishes), fatal for the decoder at s = q - 1 (`decode_unsound_at_minus_one`, the known
finding), so decode soundness is stated for every other s.
-/
import Decaf.BuildsCmd
import Decaf.Lemmas.RoundTrip
import Decaf.Model.R1cs
import Decaf.Lemmas.Gadgets
import Decaf.Props.C07

namespace C14
open Model Edwards Decaf

theorem zeta_ne_zero : ((ZETA : ℕ) : Fq) ≠ 0 := Model.zeta_ne_zero

/-- **isqrt is sound for den ≠ 0**, whatever the hint -/
theorem isqrt_sound {x : ℕ} (hx : x < q) (hx0 : x ≠ 0) (f : Bool) (y : ℕ) (_hy : y < q)
    (hsat : (R1cs.isqrt x (some (f, y))).1 = true) :
    (f = true ↔ IsSquare (x : Fq)) ∧ (y : Fq) ^ 2 * (x : Fq) = if f then 1 else (ZETA : Fq) :=
  Model.isqrt_sound hx hx0 hsat

/-- **the exact characterisation at den = 0** -/
theorem isqrt_rel_zero (f : Bool) (y : ℕ) (hy : y < q) :
    (R1cs.isqrt 0 (some (f, y))).1 = true ↔ (f = false ∧ y = 0) ∨ (f = true ∧ (y : Fq) ^ 2 = 1) := by
  rw [isqrt_sat_iff q_pos]
  cases f <;> simp [cast_eq_zero_iff hy]

/-- **the decode gadget is sound wherever the discriminant argument is non-zero** (i.e. for every s except ±1):
if all its constraints hold under ANY hint, the specification decodes s to exactly the point the gadget outputs;
in particular an invalid encoding other than q-1 can never be decoded in-circuit -/
theorem decompress_sound_partial {s : ℕ} (hs : s < q) (f : Bool) (y : ℕ) (hy : y < q)
    (hden : fmul q (fsub q (fsq q (fsub q 1 (fsq q s))) (fmul q (fmul q 4 cD) (fsq q s))) (fsq q (fsub q 1 (fsq q s))) ≠ 0)
    {X Y : ℕ} (hsat : R1cs.decompress s (some (f, y)) = (true, X, Y)) :
    DecodesTo params paritySign ((s : ℕ) : Fq) ((X : ℕ) : Fq) ((Y : ℕ) : Fq) := by
  rw [decompress_of_isqrt (isqrt_some _ f y)] at hsat
  simp only [Prod.mk.injEq, Bool.and_eq_true, Bool.not_eq_true'] at hsat
  obtain ⟨⟨⟨hnn, hq1⟩, rfl⟩, hXY⟩ := hsat
  have := decOut_spec hs hnn (isqrt_ans (decDen_lt s) hden hq1)
  rwa [hXY] at this

/-- hence the native decoder accepts s (for any routine meeting the contract) -/
theorem decompress_sound_native {sr : SR} (h : SRContract sr) {s : ℕ} (hs : s < q) (f : Bool) (y : ℕ) (hy : y < q)
    (hden : fmul q (fsub q (fsq q (fsub q 1 (fsq q s))) (fmul q (fmul q 4 cD) (fsq q s))) (fsq q (fsub q 1 (fsq q s))) ≠ 0)
    {X Y : ℕ} (hsat : R1cs.decompress s (some (f, y)) = (true, X, Y)) : ∃ c, decodeField sr s = .ok c := by
  have hdec := decompress_sound_partial hs f y hy hden hsat
  rcases decodeField_spec h s hs with ⟨_, hno⟩ | ⟨c, _, hok, _⟩
  · exact absurd ⟨⟨(X : Fq), (Y : Fq), hdec.onCurve⟩, hdec⟩ hno
  · exact ⟨c, hok⟩

theorem decDen_eq_zero {s : ℕ} (hs : s < q) (h : decDen s = 0) : s = 1 ∨ s = q - 1 := by
  have h0 : decDenF params (s : Fq) = 0 := by rw [← cast_decDen, h, Nat.cast_zero]
  have h1 : 1 - (s : Fq) ^ 2 = 0 := sq_eq_zero_iff.mp ((mul_eq_zero.mp h0).resolve_left (u2_ne_zero _))
  rcases sq_eq_one_iff.mp (sub_eq_zero.mp h1).symm with h | h
  · exact .inl (eq_of_cast_eq hs one_lt_q (h.trans Nat.cast_one.symm))
  · exact .inr (eq_of_cast_eq hs (Nat.sub_lt q_pos one_pos) (h.trans cast_q_sub_one.symm))

/-- **the decode gadget is sound for every s except q - 1**: the discriminant argument vanishes only at s = ±1, and
s = 1 is negative, so the sign constraint rejects it whatever the hint -/
theorem decompress_sound_except_minus_one {s : ℕ} (hs : s < q) (hne : s ≠ q - 1) (f : Bool) (y : ℕ) (hy : y < q)
    {X Y : ℕ} (hsat : R1cs.decompress s (some (f, y)) = (true, X, Y)) :
    DecodesTo params paritySign ((s : ℕ) : Fq) ((X : ℕ) : Fq) ((Y : ℕ) : Fq) := by
  by_cases hden : decDen s = 0
  · obtain rfl := (decDen_eq_zero hs hden).resolve_right hne
    rw [decompress_of_isqrt (isqrt_some _ f y)] at hsat
    exact absurd (congrArg Prod.fst hsat) (by simp [show isNeg 1 = true from rfl])
  · exact decompress_sound_partial hs f y hy hden hsat

/-- **the known finding**: at s = q - 1 the forged hint (true, 1) satisfies every constraint of the decode gadget
and the output is the non-point (0,0), although the specification (and both native decoders) reject q - 1 -/
theorem decode_unsound_at_minus_one : R1cs.decompress (q - 1) (some (true, 1)) = (true, 0, 0) := by decide +kernel

/-- **the encode gadget is sound**: whatever hint the prover supplies, a satisfied system outputs the native encoding —
for every affine representative (x, y) of every group element -/
theorem compress_sound {x y : ℕ} (hx : x < q) {P : E} (hr : ERepr (Ext.ofAffine (x, y)) P) (he : Point.IsEven P)
    (f : Bool) (v : ℕ) (hv : v < q) (hsat : (R1cs.compress x y (some (f, v))).1 = true) :
    Ext.encodeField sqrtRatioArk (Ext.ofAffine (x, y)) = some (R1cs.compress x y (some (f, v))).2 := by
  rw [compress_of_isqrt (isqrt_some _ f v)] at hsat ⊢
  obtain ⟨s, hs, hlt, hspec⟩ := encodeField_spec sarkar_contract hr he
  rw [hs, Option.some.injEq]
  -- both outputs are the specified encoding: the hint is an allowed answer wherever the argument is non-zero
  exact eq_of_cast_eq hlt (encOut_lt _ _)
    (EncodesTo.unique (encOut_spec hr he fun hD => isqrt_ans (encDen_lt _) hD hsat) hspec)

/-- **the Elligator gadget is sound**: whatever hint the prover supplies, a satisfied system outputs the affine
coordinates of the point the native map returns, for every input -/
theorem elligator_sound (r0 : ℕ) (f : Bool) (v : ℕ) (hv : v < q) (hsat : (R1cs.elligator r0 (some (f, v))).1 = true) :
    ∃ c P, elligator sqrtRatioArk ZETA r0 = some c ∧ ERepr c P ∧
      P.x = (((R1cs.elligator r0 (some (f, v))).2.1 : ℕ) : Fq) ∧ P.y = (((R1cs.elligator r0 (some (f, v))).2.2 : ℕ) : Fq) := by
  rw [elligator_of_isqrt (isqrt_some _ f v)] at hsat ⊢
  simp only [Bool.and_eq_true] at hsat
  obtain ⟨p1, r1, s1, -⟩ := ellOut_spec r0 (isqrt_ans (ellArg_lt r0) (ellArg_ne_zero r0) hsat.1.1)
  obtain ⟨c2, p2, h2, r2, s2, -⟩ := C07.elligator_eq_spec sarkar_contract r0
  obtain rfl := C07.elligatorTo_unique s1 s2
  obtain ⟨-, -, hxx, hyy⟩ := ell_affine r1
  exact ⟨c2, p2, h2, r2, hxx, hyy⟩

end C14

instantiate_builds C14.decompress_sound_native
