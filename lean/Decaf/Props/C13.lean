/-
C13 — R1CS gadgets compute what the native code computes, and are complete.

Honest synthesis: the hint is `none`, i.e. what `Fq::sqrt_ratio_zeta(&ONE, &den)` returns out of circuit.  That pair is an
allowed answer (`sarkar_contract.ans`), so it satisfies the isqrt constraints (`isqrt_honest`), and each gadget is its
native function evaluated at it (`*_of_isqrt` beside `*_of_sr`): satisfied exactly when the native function succeeds, with
the same outputs.  The arithmetic and comparison gadgets act on the pair of field values a variable carries (`AffRep`).
The lazily evaluated variable is a three-state machine (`R1cs.Lazy`); `run_defined` counts the gadgets a sequence of
forcings emits.  No premise is left: `sarkar_contract` is the contract of the table-driven routine (C09).
-/
import Decaf.Lemmas.Gadgets
import Decaf.Lemmas.RoundTrip
import Decaf.Lemmas.Sarkar

namespace C13
open Model Edwards Decaf

/-- honest synthesis of isqrt: the hint is the native pair, which is an allowed answer and so satisfies the constraints -/
theorem isqrt_honest {x : ℕ} (hx : x < q) :
    ∃ f y, sqrtRatioArk 1 x = some (f, y) ∧ IsqrtAns (ZETA : Fq) (x : Fq) f (y : Fq) ∧ R1cs.isqrt x none = (true, f, y) := by
  obtain ⟨f, y, hs, -, hA⟩ := sarkar_contract.ans hx
  have e : R1cs.isqrt x none = R1cs.isqrt x (some (f, y)) := by
    unfold R1cs.isqrt R1cs.honest; rw [hs]; rfl
  exact ⟨f, y, hs, hA, e.trans ((isqrt_some x f y).trans (by rw [isqrt_sat_of_ans hx hA]))⟩

/-- honest synthesis of isqrt is always satisfied and returns the native pair -/
theorem isqrt_complete {x : ℕ} (hx : x < q) :
    ∃ f y, sqrtRatioArk 1 x = some (f, y) ∧ R1cs.isqrt x none = (true, f, y) := by
  obtain ⟨f, y, hs, -, hi⟩ := isqrt_honest hx
  exact ⟨f, y, hs, hi⟩

/-- honest synthesis of the encode gadget: always satisfied, and the output IS the native encoding (any input pair) -/
theorem compress_complete (x y : ℕ) :
    ∃ s, Ext.encodeField sqrtRatioArk (Ext.ofAffine (x, y)) = some s ∧ R1cs.compress x y none = (true, s) := by
  obtain ⟨f, v, hs, hi⟩ := isqrt_complete (encDen_lt (Ext.ofAffine (x, y)))
  exact ⟨_, encodeField_of_sr hs, compress_of_isqrt hi⟩

/-- honest synthesis of the Elligator gadget: always satisfied, output = affine coordinates of the native result -/
theorem elligator_complete (r0 : ℕ) :
    ∃ c P, elligator sqrtRatioArk ZETA r0 = some c ∧ ERepr c P ∧ (R1cs.elligator r0 none).1 = true ∧
      P.x = (((R1cs.elligator r0 none).2.1 : ℕ) : Fq) ∧ P.y = (((R1cs.elligator r0 none).2.2 : ℕ) : Fq) := by
  obtain ⟨f, v, hs, hA, hi⟩ := isqrt_honest (ellArg_lt r0)
  obtain ⟨P, hr, -⟩ := ellOut_spec r0 hA
  obtain ⟨hF, hT, hxx, hyy⟩ := ell_affine hr
  rw [elligator_of_isqrt hi]
  refine ⟨_, P, elligator_of_sr hs, hr, ?_, hxx, hyy⟩
  rw [(bne_zero_iff_cast (ellF_lt r0 f v)).mpr hF, (bne_zero_iff_cast (ellT_lt r0 f v)).mpr hT]; rfl

/-- honest synthesis of the decode gadget: satisfied iff native decoding succeeds, same coordinates -/
theorem decompress_complete_iff {s : ℕ} (hs : s < q) :
    ((R1cs.decompress s none).1 = true ↔ ∃ c, decodeField sqrtRatioArk s = .ok c) ∧
    (∀ c, decodeField sqrtRatioArk s = .ok c → (R1cs.decompress s none).2 = (c.X, c.Y)) := by
  obtain ⟨f, v, hsr, hiq⟩ := isqrt_complete (decDen_lt s)
  rw [decompress_of_isqrt hiq, decodeField_of_sr hsr]
  cases isNeg s <;> cases f <;> simp [Ext.ofAffine]

/-- `AffRep a P`: the pair of field values carried by an `ElementVar` is the point P -/
def AffRep (a : ℕ × ℕ) (P : E) : Prop := (a.1 : Fq) = P.x ∧ (a.2 : Fq) = P.y

theorem AffRep.repr {a : ℕ × ℕ} {P : E} (h : AffRep a P) : ERepr (Ext.ofAffine a) P := ofAffine_repr h.1 h.2

/-- add / add-assign / add-constant gadgets (`Ext.addAffine` on the carried values) -/
theorem add_gadget {a b : ℕ × ℕ} {P Q : E} (ha : AffRep a P) (hb : AffRep b Q) : AffRep (Ext.addAffine a b) (P + Q) :=
  addAffine_cast ha hb

theorem neg_gadget {a : ℕ × ℕ} {P : E} (ha : AffRep a P) : AffRep (fneg q a.1, a.2) (-P) := by
  constructor
  · rw [cast_fneg, ha.1]; rfl
  · rw [ha.2]; rfl

/-- sub / sub-assign / sub-constant gadgets -/
theorem sub_gadget {a b : ℕ × ℕ} {P Q : E} (ha : AffRep a P) (hb : AffRep b Q) :
    AffRep (Ext.addAffine a (fneg q b.1, b.2)) (P - Q) := by
  rw [sub_eq_add_neg]; exact add_gadget ha (neg_gadget hb)

theorem double_gadget {a : ℕ × ℕ} {P : E} (ha : AffRep a P) : AffRep (Ext.addAffine a a) (2 • P) := by
  rw [two_nsmul]; exact add_gadget ha ha

theorem select_gadget {a b : ℕ × ℕ} {P Q : E} (ha : AffRep a P) (hb : AffRep b Q) (c : Bool) :
    AffRep (if c then a else b) (if c then P else Q) := by
  cases c
  · exact hb
  · exact ha

theorem identity_affRep : AffRep (0, 1) (0 : E) := ⟨Nat.cast_zero, Nat.cast_one⟩

/-- **scalar multiplication gadget** (`scalar_mul_le`): for every bit list, of any length, the LSB-first
double-and-add with select computes `acc + (Σ bᵢ 2ⁱ) • P` -/
theorem scalarMul_gadget_aux (bits : List Bool) : ∀ {res mult : ℕ × ℕ} {R M : E}, AffRep res R → AffRep mult M →
    AffRep (R1cs.scalarMulLe bits res mult) (R + bitsVal bits • M) := by
  induction bits with
  | nil => intro res mult R M hr _; simpa [R1cs.scalarMulLe, bitsVal] using hr
  | cons b bs ih =>
    intro res mult R M hr hm
    rw [R1cs.scalarMulLe, bitsVal, ← ladder_step]
    exact ih (select_gadget (add_gadget hr hm) hr b) (add_gadget hm hm)

theorem scalarMul_gadget (bits : List Bool) {a : ℕ × ℕ} {P : E} (ha : AffRep a P) :
    AffRep (R1cs.scalarMulLe bits (0, 1) a) (bitsVal bits • P) := by
  have := scalarMul_gadget_aux bits identity_affRep ha
  rwa [zero_add] at this

/-- **equality gadget**: `x₁y₂ = x₂y₁` on the carried values decides equality of group elements (the coset relation),
for every pair of curve points: it is the native test (C08) on the affine representatives -/
theorem isEq_gadget {a b : ℕ × ℕ} {P Q : E} (ha : AffRep a P) (hb : AffRep b Q) :
    R1cs.isEq a b = true ↔ Point.Coset P Q := by
  rw [← eq_iff_coset ha.repr hb.repr]
  unfold R1cs.isEq Ext.eq Ext.ofAffine fmul
  rw [Nat.mul_comm b.1 a.2]

theorem onCurve_iff (x y : ℕ) : C17.onCurve x y = true ↔ OnCurve params.d (x : Fq) (y : Fq) := by
  unfold C17.onCurve OnCurve
  rw [beq_iff_cast (fadd_lt q_pos _ _) (fadd_lt q_pos _ _)]
  simp only [fq, show ((C17.coeffA : ℕ) : Fq) = -1 from cast_cA, show ((C17.coeffD : ℕ) : Fq) = (cD : Fq) from rfl]
  rw [neg_one_mul, ← mul_assoc]

/-- witness allocation in terms of the encoding it witnesses and of what the decode gadget returns for it (stated for
opaque values so that the kernel never has to look inside the gadgets) -/
theorem allocWitness_of {px py : ℕ} {h : R1cs.Hint} {s : ℕ} {sat : Bool} {x y : ℕ}
    (hfe : ((Ext.ofAffine (px, py)).encodeField sqrtRatioArk).getD 0 = s) (hd : R1cs.decompress s h = (sat, x, y)) :
    R1cs.allocWitness px py h = (C17.onCurve px py && sat && (fmul q x py == fmul q px y), x, y) := by
  unfold R1cs.allocWitness
  simp only []
  rw [hfe, hd]

/-- **witness allocation is complete**: for every affine representative of every group element, honest synthesis is
satisfied and the variable handed back carries a representative of the same element (the decoded one) -/
theorem allocWitness_complete {px py : ℕ} {P : E} (hr : ERepr (Ext.ofAffine (px, py)) P) (he : Point.IsEven P) :
    ∃ P', (R1cs.allocWitness px py none).1 = true ∧ AffRep (R1cs.allocWitness px py none).2 P' ∧ Point.Coset P P' := by
  obtain ⟨s, c', P', hs, hlt, hdf, hZ, hr', hcos⟩ := decodeField_encodeField sarkar_contract hr he
  obtain ⟨hsat, hout⟩ := decompress_complete_iff hlt
  rw [allocWitness_of (by rw [hs]; rfl) (Prod.ext (hsat.mpr ⟨c', hdf⟩) (hout c' hdf))]
  have hc' : AffRep (c'.X, c'.Y) P' := affine_of_Z_one hr' hZ
  have hpq : AffRep (px, py) P := affine_of_Z_one hr rfl
  have hon := (onCurve_iff px py).mpr (by rw [hpq.1, hpq.2]; exact P.on)
  -- the gadget's last constraint is the equality gadget between the decoded and the offered pair
  have heq : R1cs.isEq (c'.X, c'.Y) (px, py) = true := (isEq_gadget hc' hpq).mpr hcos.symm
  refine ⟨P', ?_, hc', hcos⟩
  show (C17.onCurve px py && true && R1cs.isEq (c'.X, c'.Y) (px, py)) = true
  rw [hon, heq]; rfl

/-- run a sequence of forcings (with one hint per emitted gadget) -/
def run : List R1cs.Force → R1cs.Lazy → List R1cs.Hint → R1cs.Lazy × List R1cs.Emitted
  | [], st, _ => (st, [])
  | f :: fs, st, hs =>
    let r := st.step f (hs.headD none)
    let hs' := if r.2.1 = .nothing then hs else hs.drop 1
    let rest := run fs r.1 hs'
    (rest.1, r.2.1 :: rest.2)

/-- `Lazy.step` with projections in place of `let (sat, x, y) := …`: which gadget a forcing emits can then be read off
without evaluating the gadget (a square root) -/
theorem step_eq (st : R1cs.Lazy) (f : R1cs.Force) (h : R1cs.Hint) :
    st.step f h = match st, f with
      | .enc s, .elem => (.both s (R1cs.decompress s h).2.1 (R1cs.decompress s h).2.2, .decompress, (R1cs.decompress s h).1)
      | .elem x y, .enc => (.both (R1cs.compress x y h).2 x y, .compress, (R1cs.compress x y h).1)
      | st, _ => (st, .nothing, true) := by
  cases st <;> cases f <;> rfl

/-- a value, once defined, is never changed by a later forcing -/
theorem step_preserves_values (st : R1cs.Lazy) (f : R1cs.Force) (h : R1cs.Hint) :
    (∀ s, st.encVal = some s → (st.step f h).1.encVal = some s) ∧
    (∀ p, st.elemVal = some p → (st.step f h).1.elemVal = some p) := by
  rw [step_eq]; cases st <;> cases f <;> simp [R1cs.Lazy.encVal, R1cs.Lazy.elemVal]

/-- how many of its two values a state holds -/
def defined : R1cs.Lazy → ℕ
  | .both .. => 2
  | _ => 1

/-- every emitted gadget defines one more of the two values -/
theorem step_defined (st : R1cs.Lazy) (f : R1cs.Force) (h : R1cs.Hint) :
    defined (st.step f h).1 = defined st + ([(st.step f h).2.1].filter (· ≠ .nothing)).length := by
  rw [step_eq]; cases st <;> cases f <;> rfl

theorem run_defined (fs : List R1cs.Force) (st : R1cs.Lazy) (hs : List R1cs.Hint) :
    defined (run fs st hs).1 = defined st + ((run fs st hs).2.filter (· ≠ .nothing)).length := by
  induction fs generalizing st hs with
  | nil => rfl
  | cons f fs ih => rw [run, ih, step_defined, Nat.add_assoc, ← List.length_append, ← List.filter_append]; rfl

theorem defined_bounds (st : R1cs.Lazy) : 1 ≤ defined st ∧ defined st ≤ 2 := by
  cases st <;> simp [defined]

/-- **at most one gadget is ever synthesised**, for every order and number of forcings: a state holds one value at the
start and two at most -/
theorem lazy_emits_at_most_once (fs : List R1cs.Force) (st : R1cs.Lazy) (hs : List R1cs.Hint) :
    ((run fs st hs).2.filter (· ≠ .nothing)).length ≤ 1 := by
  have h := run_defined fs st hs
  have h1 := (defined_bounds st).1
  have h2 := (defined_bounds (run fs st hs).1).2
  omega

/-- non-vacuity: the sequence enc, elem, enc, elem, elem from an encoding emits exactly one decode -/
example : (run [.enc, .elem, .enc, .elem, .elem] (.enc 8) []).2 = [.nothing, .decompress, .nothing, .nothing, .nothing] := by
  simp only [run, step_eq]

end C13
