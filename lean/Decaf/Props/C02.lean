/-
C02 — Decoding accepts exactly the canonical encodings of the specification.

`sr` is ANY square-root routine meeting the four-case contract (`Model.SRContract`; C09 proves it for the two
routines of the repository), so every statement holds for both builds.  `DecSpec s P` is the relational form of
ristretto.sage's `decodeSpec` (see `Spec/Encoding.lean`).  Byte strings are lists of naturals < 256.
The nine entry points of the Rust API all reduce to `decodeSlice` / `decode32` (that forwarding is one line each; it is
proved over the translated `impl` blocks in Props/Translated/C02.lean, `entry_points` and `stream_entry_points`, and
exercised by the correspondence run over every entry point × every near-miss class).
-/
import Decaf.BuildsCmd
import Decaf.Lemmas.RoundTrip

namespace C02
open Model Edwards Decaf

variable {sr : SR}

/-- `decode32` is `decodeField` on the integer value when that value is canonical, and an encoding error otherwise -/
theorem decode32_eq (bytes : List ℕ) :
    decode32 sr bytes = if leBytes bytes < q then decodeField sr (leBytes bytes) else .error .encoding := by
  unfold decode32 fqFromBytesChecked
  by_cases hv : leBytes bytes < q
  · -- the top-three-bits pre-check is implied by canonicity
    have ht : bytes.getD 31 0 / 32 = 0 :=
      Nat.div_eq_of_lt (getD_lt_of_leBytes_lt (hv.trans (q_lt_two_pow_253.trans_eq (by norm_num))))
    rw [if_pos hv, ht]
    simp [hv]
  · simp only [hv, if_false, ite_self]

/-- `decode32` is the specification on the canonical value: an encoding error when the value is not below q or the
specification does not decode it, otherwise a representative with Z = 1 of the (even) point the specification defines -/
theorem decode32_spec (h : SRContract sr) (bytes : List ℕ) :
    (decode32 sr bytes = .error .encoding ∧ ¬ (leBytes bytes < q ∧ ∃ pt : E, DecSpec (leBytes bytes) pt)) ∨
    (∃ c pt, decode32 sr bytes = .ok c ∧ leBytes bytes < q ∧ ERepr c pt ∧ DecSpec (leBytes bytes) pt ∧
      Point.IsEven pt ∧ c.X < q ∧ c.Z = 1) := by
  rw [decode32_eq]
  by_cases hv : leBytes bytes < q
  · rw [if_pos hv]
    rcases decodeField_spec h _ hv with ⟨herr, hno⟩ | ⟨c, pt, hok, hr, hspec, hev, hx, hz⟩
    · exact Or.inl ⟨herr, fun hh => hno hh.2⟩
    · exact Or.inr ⟨c, pt, hok, hv, hr, hspec, hev, hx, hz⟩
  · exact Or.inl ⟨if_neg hv, fun hh => hv hh.1⟩

/-- **acceptance**: a 32-byte string is accepted iff its value is below q and the specification decodes it
(non-negative s with square discriminant; in particular s = q-1 and every s ≥ q, every string with a high bit
set and every negative s are rejected) -/
theorem decode_accepts_iff (h : SRContract sr) (bytes : List ℕ) :
    (∃ c, decode32 sr bytes = .ok c) ↔ leBytes bytes < q ∧ ∃ pt : E, DecSpec (leBytes bytes) pt := by
  rcases decode32_spec h bytes with ⟨herr, hno⟩ | ⟨c, pt, hok, hv, -, hspec, -⟩
  · exact ⟨fun ⟨c, hc⟩ => (by rw [herr] at hc; cases hc), fun hh => absurd hh hno⟩
  · exact ⟨fun _ => ⟨hv, pt, hspec⟩, fun _ => ⟨c, hok⟩⟩

/-- **result**: what is returned represents the point the specification defines (which is on the curve and in the
even subgroup), with Z = 1 -/
theorem decode_eq_spec (h : SRContract sr) (bytes : List ℕ) {c : Ext} (hc : decode32 sr bytes = .ok c) :
    ∃ pt : E, ERepr c pt ∧ DecSpec (leBytes bytes) pt ∧ Point.IsEven pt ∧ c.Z = 1 ∧ c.X < q := by
  rcases decode32_spec h bytes with ⟨herr, -⟩ | ⟨c', pt, hok, -, hr, hspec, hev, hx, hz⟩
  · rw [herr] at hc; cases hc
  · obtain rfl : c' = c := by rw [hok] at hc; injection hc
    exact ⟨pt, hr, hspec, hev, hz, hx⟩

/-- **never a panic, never anything but an encoding error** -/
theorem decode_error_is_encoding (h : SRContract sr) (bytes : List ℕ) {e : DecErr} (he : decode32 sr bytes = .error e) :
    e = .encoding := by
  rcases decode32_spec h bytes with ⟨herr, -⟩ | ⟨c', pt, hok, -⟩
  · rw [herr] at he; injection he with he; exact he.symm
  · rw [hok] at he; cases he

/-- slices of any other length are length errors; slices of length 32 are decoded as above -/
theorem decodeSlice_length (bytes : List ℕ) (hl : bytes.length ≠ 32) : decodeSlice sr bytes = .error .length := by
  unfold decodeSlice; simp [hl]

theorem decodeSlice_32 (bytes : List ℕ) (hl : bytes.length = 32) : decodeSlice sr bytes = decode32 sr bytes := by
  unfold decodeSlice; simp [hl]

/-! ### the named rejection classes -/

theorem rejects_noncanonical (bytes : List ℕ) (hv : q ≤ leBytes bytes) : decode32 sr bytes = .error .encoding := by
  rw [decode32_eq, if_neg (not_lt.mpr hv)]

theorem rejects_negative (h : SRContract sr) (bytes : List ℕ) (hneg : leBytes bytes % 2 = 1) : ¬ ∃ c, decode32 sr bytes = .ok c := by
  rw [decode_accepts_iff h]
  rintro ⟨hv, pt, hn, _⟩
  rw [← isNeg_eq hv, isNeg, hneg] at hn
  exact absurd hn (by decide)

/-- s = -1 (the bytes of q-1) is rejected: its discriminant is -4d, a non-square -/
theorem rejects_minus_one (h : SRContract sr) (bytes : List ℕ) (hv : leBytes bytes = q - 1) : ¬ ∃ c, decode32 sr bytes = .ok c := by
  rw [decode_accepts_iff h]
  rintro ⟨_, pt, _, t, ht, _⟩
  have hs : (((leBytes bytes : ℕ)) : Fq) = -1 := by rw [hv]; exact cast_q_sub_one
  apply one_sub_sq_ne_zero_of_root ht
  rw [hs]; ring

/-- non-vacuity: the encoding of the generator, 8, is accepted; q-1, q and 1 are not (kernel evaluation) -/
example : (decode32 sqrtRatioMin (toLeBytes 8 32)).toOption.isSome = true := by decide +kernel
example : (decode32 sqrtRatioMin (toLeBytes (q - 1) 32)).toOption.isSome = false := by decide +kernel
example : (decode32 sqrtRatioArk (toLeBytes q 32)).toOption.isSome = false := by decide +kernel
example : (decode32 sqrtRatioArk (toLeBytes 1 32)).toOption.isSome = false := by decide +kernel

end C02

instantiate_builds C02.decode_accepts_iff
instantiate_builds C02.decode_eq_spec
instantiate_builds C02.decode_error_is_encoding
instantiate_builds C02.rejects_negative
instantiate_builds C02.rejects_minus_one
